/-
  The backward shift-and scan with Boyer-Moore-like skipping of `has_common_substring_internal` is exact.
-/
import FfuzzyModel.PosArray
import FfuzzyProofs.Hyyro
import FfuzzyProofs.Bits
namespace Ffuzzy.CommonSub

/-- the piece `b[s ..= s+n]` stands in `a` from position `q` on -/
def OccAt (a b : List UInt8) (s n q : Nat) : Prop :=
  ∀ t, t < n + 1 → a[q + t]? = b[s + t]?

/-- invariant of the inner loop after the symbols `b[l0 ..= l0+n]`: the set bits of `d` are exactly
    the end positions `q + n` of the occurrences of that piece in `a` -/
def DInv (a b : List UInt8) (l0 n : Nat) (d : BitVec 64) : Prop :=
  ∀ k, k < 64 → (d.getLsbD k = true ↔ ∃ q, q + n = k ∧ OccAt a b l0 n q)

/-- the piece `b[s ..= s+n]` (`n + 1` symbols) occurs in `a` -/
def Occ (a b : List UInt8) (s n : Nat) : Prop := ∃ q, q + n < a.length ∧ OccAt a b s n q

/-- the loops read `other[l]` inside the string only -/
theorem sym_eq {b : List UInt8} {i : Nat} (h : i < b.length) : some (PA.sym b i) = b[i]? := by
  rw [PA.sym, List.getD_eq_getElem?_getD, List.getElem?_eq_getElem h]; rfl

theorem dinv_init (a b : List UInt8) (p : PA) (hpa : Hyyro.PaSpec a p.get) (l0 : Nat) (hl : l0 < b.length) :
    DInv a b l0 0 (p.get (PA.sym b l0)) := by
  intro q hq
  rw [hpa _ q hq, decide_eq_true_eq, sym_eq hl]
  constructor
  · intro h
    refine ⟨q, rfl, fun t ht => ?_⟩
    obtain rfl : t = 0 := by omega
    exact h
  · rintro ⟨q', rfl, h⟩
    exact h 0 Nat.one_pos

theorem dinv_step (a b : List UInt8) (p : PA) (hpa : Hyyro.PaSpec a p.get) (l0 n : Nat) (hl : l0 + n + 1 < b.length)
    (d : BitVec 64) (h : DInv a b l0 n d) :
    DInv a b l0 (n + 1) (PA.nextD p b (l0 + n) d) := by
  intro k hk
  unfold PA.nextD
  rw [BitVec.getLsbD_and, BitVec.getLsbD_shiftLeft, hpa _ k hk, sym_eq hl]
  simp only [hk, decide_true, Bool.true_and, Bool.and_eq_true, Bool.not_eq_true', decide_eq_false_iff_not,
    Nat.not_lt, decide_eq_true_eq]
  constructor
  · rintro ⟨⟨h1, h2⟩, h3⟩
    obtain ⟨q, hq, ho⟩ := (h (k - 1) (by omega)).mp h2
    refine ⟨q, by omega, fun t ht => ?_⟩
    by_cases htn : t < n + 1
    · exact ho t htn
    · obtain rfl : t = n + 1 := by omega
      rw [show q + (n + 1) = k by omega]; exact h3
  · rintro ⟨q, hq, ho⟩
    refine ⟨⟨by omega, (h (k - 1) (by omega)).mpr ⟨q, by omega, fun t ht => ho t (by omega)⟩⟩, ?_⟩
    rw [← hq]; exact ho (n + 1) (Nat.lt_succ_self _)

theorem dinv_ne_zero (a b : List UInt8) (l0 n : Nat) (ha : a.length ≤ 64) (hl : l0 + n < b.length) (d : BitVec 64)
    (h : DInv a b l0 n d) : d ≠ 0 ↔ Occ a b l0 n := by
  rw [Bits.ne_zero_iff]
  constructor
  · rintro ⟨p, hp, hd⟩
    obtain ⟨q, rfl, ho⟩ := (h p hp).mp hd
    -- the last symbol of the piece is a symbol of `a`
    have := ho n (Nat.lt_succ_self n)
    rw [List.getElem?_eq_getElem hl] at this
    exact ⟨q, (List.getElem?_eq_some_iff.mp this).1, ho⟩
  · rintro ⟨q, hq, ho⟩
    exact ⟨q + n, by omega, (h _ (by omega)).mpr ⟨q, rfl, ho⟩⟩

/-- one run of the inner loop from `l0`: either the window `b[l0 ..= l0+6]` occurs in `a`, or the loop stops
    at some `l0 + m` and the piece `b[l0 ..= l0+m]` does not. The `6` is `MIN_LCS_FOR_COMPARISON - 1`:
    with inclusive ends a window of 7 symbols is `Occ a b l0 6`. -/
theorem inner_spec (a b : List UInt8) (p : PA) (hpa : Hyyro.PaSpec a p.get) (ha : a.length ≤ 64) (l0 : Nat)
    (hb : l0 + 6 < b.length) :
    ∀ (l : Nat) (d : BitVec 64) (n : Nat) (r : Bool × Nat), PA.csInner p b (l0+6) l d = r → l = l0 + n → n ≤ 6 →
      DInv a b l0 n d → (n = 6 → d = 0) →
      (r.1 = true → Occ a b l0 6) ∧ (r.1 = false → ∃ m, r.2 = l0 + m ∧ m ≤ 6 ∧ ¬ Occ a b l0 m) := by
  intro l d
  fun_induction PA.csInner p b (l0+6) l d with
  | case1 l =>
    rintro n _ rfl rfl h2 hinv _
    have hno : ¬ Occ a b l0 n := fun ho => (dinv_ne_zero a b l0 n ha (by omega) 0 hinv).mpr ho rfl
    exact ⟨nofun, fun _ => ⟨n, rfl, h2, hno⟩⟩
  | case2 l d hd hr =>
    rintro n _ _ rfl h2 hinv hz
    exact absurd (hz (by omega)) hd
  | case3 l d hd hr hc =>
    rintro n _ rfl rfl h2 hinv _
    obtain rfl : n = 5 := by omega
    have hs : DInv a b l0 6 (PA.nextD p b (l0 + 5) d) := dinv_step a b p hpa l0 5 hb d hinv
    have hocc : Occ a b l0 6 := (dinv_ne_zero a b l0 6 ha hb _ hs).mp hc.2
    exact ⟨fun _ => hocc, nofun⟩
  | case4 l d hd hr hc ih =>
    rintro n r hr' rfl h2 hinv _
    have hs : DInv a b l0 (n + 1) (PA.nextD p b (l0 + n) d) := dinv_step a b p hpa l0 n (by omega) d hinv
    have hz' : n + 1 = 6 → PA.nextD p b (l0 + n) d = 0 := fun e =>
      Classical.byContradiction fun hne => hc ⟨by omega, hne⟩
    exact ih (n + 1) r hr' rfl (by omega) hs hz'

theorem occ_sub (a b : List UInt8) (l0 m j : Nat) (hlo : j ≤ l0) (hhi : l0 + m ≤ j + 6)
    (h : Occ a b j 6) : Occ a b l0 m := by
  obtain ⟨q, hq, ho⟩ := h
  refine ⟨q + (l0 - j), by omega, fun t ht => ?_⟩
  have := ho (l0 - j + t) (by omega)
  rwa [← Nat.add_assoc, show j + (l0 - j + t) = l0 + t by omega] at this

theorem outer_spec (a b : List UInt8) (p : PA) (hpa : Hyyro.PaSpec a p.get) (ha : a.length ≤ 64) :
    ∀ l0, l0 + 7 ≤ b.length → (∀ j, l0 < j → j + 7 ≤ b.length → ¬ Occ a b j 6) →
      (PA.csOuter p b l0 = true ↔ ∃ j, j + 7 ≤ b.length ∧ Occ a b j 6) := by
  intro l0
  induction l0 using Nat.strongRecOn with | _ l0 ih => ?_
  intro hl hlater
  obtain ⟨hf, hnf⟩ := inner_spec a b p hpa ha l0 (by omega) l0 _ 0 _ rfl rfl (by omega)
    (dinv_init a b p hpa l0 (by omega)) (by omega)
  rw [PA.csOuter]
  generalize PA.csInner p b (l0 + 6) l0 (p.get (PA.sym b l0)) = r at hf hnf ⊢
  obtain ⟨_ | _, e⟩ := r
  · obtain ⟨m, rfl, hm, hno⟩ := hnf rfl
    -- the skip: the piece `b[l0 ..= l0+m]` does not occur, so no window that contains it does
    have hskip : ∀ j, l0 + m < j + 7 → j + 7 ≤ b.length → ¬ Occ a b j 6 := fun j h1 h2 hocc =>
      if hjl : l0 < j then hlater j hjl h2 hocc else hno (occ_sub a b l0 m j (by omega) (by omega) hocc)
    rw [if_neg Bool.false_ne_true]
    split
    · exact ⟨nofun, fun ⟨j, hj, hocc⟩ => (hskip j (by omega) hj hocc).elim⟩
    · exact ih _ (by omega) (by omega) fun j hj => hskip j (by omega)
  · rw [if_pos rfl]
    exact ⟨fun _ => ⟨l0, hl, hf rfl⟩, fun _ => rfl⟩

theorem hasCommonSubstring_iff (a b : List UInt8) (p : PA) (hpa : Hyyro.PaSpec a p.get)
    (ha : a.length ≤ 64) (hlen : p.len.toNat = a.length) :
    p.hasCommonSubstringInternal b = true ↔
      ∃ i j, i + 7 ≤ a.length ∧ j + 7 ≤ b.length ∧ ∀ t, t < 7 → a[i + t]? = b[j + t]? := by
  unfold PA.hasCommonSubstringInternal
  simp only [MIN_LCS_FOR_COMPARISON, hlen]
  by_cases hs : a.length < 7 ∨ b.length < 7
  · rw [if_pos hs]
    simp only [Bool.false_eq_true, false_iff, not_exists, not_and]
    intro i j h1 h2; omega
  · rw [if_neg hs, outer_spec a b p hpa ha (b.length - 7) (by omega) (by intro j h1 h2; omega)]
    -- `Occ a b j 6` is the statement's "some window of `a` equals the window of `b` at `j`"
    exact ⟨fun ⟨j, hj, i, hi, h⟩ => ⟨i, j, hi, hj, h⟩, fun ⟨i, j, hi, hj, h⟩ => ⟨j, hj, i, hi, h⟩⟩

end Ffuzzy.CommonSub
