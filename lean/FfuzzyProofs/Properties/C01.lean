/-
  C01 — the generator's output is the digest the ssdeep CTPH algorithm defines.

  Reference: `Spec.Naive` (FfuzzyModel/Spec/Naive.lean), the spamsum / libfuzzy engine without
  ffuzzy's optimisations.  ffuzzy's engine (fork on first use, elimination of block sizes that can no longer be selected,
  fork limit from a declared size, dedicated last-piece hash standing in for level 31) is proved to
  return exactly that digest for every input, in all of its output forms.
-/
import FfuzzyProofs.GenSim.History
namespace Ffuzzy.C01
open Ffuzzy.Spec Ffuzzy.GenSim

/-- **C01 (master form).** every way of finalising the generator after feeding `bs` returns the
    reference digest: `(truncate, S2)` ∈ {(true,32) `finalize`, (false,64) `finalize_without_truncation`,
    (false,32) short non-truncated, (true,64)} -/
theorem generator_eq_reference (bs : List UInt8) (trunc : Bool) (s2 : Nat) (hs2 : s2 = 32 ∨ s2 = 64) :
    (Gen.new.update bs).finalizeRaw trunc s2 = naiveDigest bs trunc s2 := by
  have hJ := J_update Gen.new _ bs J_new
  have := J_final _ _ hJ trunc s2 hs2
  rw [this]
  unfold Abs.digest
  simp

theorem finalize_eq_reference (bs : List UInt8) : (Gen.new.update bs).finalize = naiveDigest bs true 32 :=
  generator_eq_reference bs true 32 (Or.inl rfl)

theorem finalizeWithoutTruncation_eq_reference (bs : List UInt8) :
    (Gen.new.update bs).finalizeWithoutTruncation = naiveDigest bs false 64 :=
  generator_eq_reference bs false 64 (Or.inr rfl)

theorem digest2_short (c : Ctx) (wf : WF c) (nz : Bool) :
    c.digest2 nz false 32 =
      match c.digest2 nz false 64 with
      | .error e => .error e
      | .ok d => if d.length ≤ 32 then .ok d else .error .outputOverflow := by
  rw [digest2_full c wf nz 32 (Or.inl rfl), digest2_full c wf nz 64 (Or.inr rfl)]
  generalize withTail (stored c) c.hFull 64 nz = r
  rw [if_neg (fun h : (64 : Nat) = 32 ∧ 32 < r.length => absurd h.1 (by decide))]
  show _ = if r.length ≤ 32 then Except.ok r else Except.error GenErr.outputOverflow
  by_cases h : 32 < r.length
  · rw [if_pos ⟨rfl, h⟩, if_neg (Nat.not_le_of_gt h)]
  · rw [if_neg (fun e => h e.2), if_pos (Nat.le_of_not_lt h)]

/-- **C01 (short non-truncated variant).** the same hash when block hash 2 fits, output overflow otherwise -/
theorem short_variant (bs : List UInt8) :
    (Gen.new.update bs).finalizeRaw false 32 =
      match (Gen.new.update bs).finalizeWithoutTruncation with
      | .error e => .error e
      | .ok d => if d.bh2.length ≤ 32 then .ok d else .error .outputOverflow := by
  rw [generator_eq_reference bs false 32 (Or.inl rfl), finalizeWithoutTruncation_eq_reference]
  unfold naiveDigest Naive.digest
  split
  · rfl
  · have hk := naiveGuess_le (Naive.feed bs) (min 30 (Gen.logBlockSizeFromInputSize (Naive.feed bs).size 0))
    simp only
    rw [digest2_short _ ((ninv_feed bs).wf _ (by omega))]
    generalize Ctx.digest2 _ _ false 64 = r
    rcases r with e | d
    · rfl
    · by_cases hd : d.length ≤ 32
      · simp only [hd, if_true]
      · simp only [hd, if_false]

/-- **C01 (one-shot function).** `hash_buf` (which declares the size first) returns the reference digest -/
theorem hashBuf_eq_reference (bs : List UInt8) (hlen : bs.length ≤ Gen.MAX_INPUT_SIZE) :
    Gen.hashBuf bs = naiveDigest bs true 32 := by
  have hs := Gen.setFixedInputSize_new bs.length hlen
  have hf := J_final _ _ (J_update _ _ bs (J_hint Gen.new _ bs.length J_new)) true 32 (Or.inl rfl)
  simp only [GOp.apply, hs] at hf
  unfold Gen.hashBuf Gen.finalize
  rw [hs]
  simp only
  rw [hf]
  -- the caller-visible side: the declaration is accepted and met
  have hu : bs.length ≤ U64_MAX := by unfold Gen.MAX_INPUT_SIZE at hlen; unfold U64_MAX; omega
  simp [Abs.digest, Abs.apply, Nat.not_lt.mpr hlen, Nat.min_eq_left hu]

/-- non-vacuity: a concrete input and its digest -/
example : Gen.hashBuf [104, 101, 108, 108, 111] = naiveDigest [104, 101, 108, 108, 111] true 32 :=
  hashBuf_eq_reference _ (by decide)

end Ffuzzy.C01
