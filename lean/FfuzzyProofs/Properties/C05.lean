/-
  C05 — text round trip and formatter contract.
-/
import FfuzzyProofs.Properties.C04
namespace Ffuzzy.C05
open Ffuzzy.Spec Ffuzzy.Collapse Ffuzzy.ParseBh Ffuzzy.ParseBs Ffuzzy.ParseField Ffuzzy.ParseMain

/-- canonical decimal: non-empty digit strings without leading zero are determined by their value -/
theorem decimal_unique (a b : List UInt8) (ha : ∀ c ∈ a, isDigit c = true) (hb : ∀ c ∈ b, isDigit c = true)
    (hna : a ≠ []) (hnb : b ≠ []) (hha : a.head? ≠ some 48) (hhb : b.head? ≠ some 48)
    (hv : decimalValue a = decimalValue b) : a = b := by
  -- the longer string, cut to the length of the shorter, has the same value from a start value that
  -- its cut-off head makes positive unless nothing was cut off
  have key : ∀ (a b : List UInt8), (∀ c ∈ a, isDigit c = true) → (∀ c ∈ b, isDigit c = true) → b.head? ≠ some 48 →
      a.length ≤ b.length → decimalValue a = decimalValue b → a = b := by
    intro a b ha hb hhb hl hv
    -- `b` is `k` leading digits followed by as many digits as `a` has
    generalize hk : b.length - a.length = k
    have hsplit : decimalValue b = decFrom (decFrom 0 (b.take k)) (b.drop k) := by
      conv => lhs; rw [← List.take_append_drop k b]
      exact List.foldl_append
    have hlen : a.length = (b.drop k).length := by rw [List.length_drop]; omega
    have hda : ∀ x ∈ a, (x - 48).toNat < 10 := fun x hx => Nat.lt_succ_of_le (digit_val x (ha x hx)).1
    have hdb : ∀ y ∈ b.drop k, (y - 48).toNat < 10 := fun y hy =>
      Nat.lt_succ_of_le (digit_val y (hb y (List.mem_of_mem_drop hy))).1
    obtain ⟨hstart, hback⟩ : 0 = decFrom 0 (b.take k) ∧ a = b.drop k :=
      List.foldl_digits_inj 10 (fun d : UInt8 => (d - 48).toNat) (fun _ _ => digit_inj) a (b.drop k) 0 _ hlen hda hdb
        (hv.trans hsplit)
    cases k with
    | zero => rw [hback, List.drop_zero]
    | succ k =>
      -- the leading digits have the value 0, so the first of them is '0'
      cases b with
      | nil => rw [List.length_nil, Nat.zero_sub] at hk; cases hk
      | cons y ys =>
        rw [List.take_succ_cons, decFrom_cons] at hstart
        have hge := decFrom_ge (ys.take k) (0 * 10 + (y - 48).toNat)
        have hy0 : (y - 48).toNat = 0 := by omega
        have hy : y = 48 := (digit_val y (hb y (List.mem_cons_self ..))).2.mp hy0
        exact absurd (hy ▸ rfl) hhb
  rcases Nat.le_total a.length b.length with h | h
  · exact key a b ha hb hhb h hv
  · exact (key b a hb ha hha h hv.symm).symm

theorem str_spec (log : UInt8) (h : log < 31) :
    decimalValue (BlockSize.str log) = 3 * 2 ^ log.toNat ∧ (BlockSize.str log).length ≤ 10 ∧
      (BlockSize.str log).head? ≠ some 48 ∧ ∀ c ∈ BlockSize.str log, isDigit c = true := by
  have := C20.str_roundtrip ⟨log.toNat, h⟩
  rw [show log.toNat.toUInt8 = log from UInt8.ofNat_toNat] at this
  obtain ⟨hval, hlen, hhead, hdig⟩ := this
  exact ⟨hval, hlen, hhead, List.all_eq_true.mp hdig⟩

theorem blockSizeLog_str (log : UInt8) (h : log < 31) : blockSizeLog (BlockSize.str log) = some log.toNat := by
  obtain ⟨sv, _, sh, _⟩ := str_spec log h
  refine (blockSizeLog_eq_some_iff _ _).mpr ⟨fun e => ?_, sh, h, sv⟩
  rw [e] at sv
  exact absurd sv.symm (Nat.ne_of_gt (Nat.mul_pos (by omega) (Nat.two_pow_pos _)))

/-- the decimal of a block size is the only digit string that `blockSizeLog` reads as its log, since canonical
    decimals are unique (`decimal_unique`) -/
theorem str_of_blockSizeLog (ds : List UInt8) (hds : ∀ c ∈ ds, isDigit c = true) (log : UInt8) (h : log < 31)
    (hl : blockSizeLog ds = some log.toNat) : BlockSize.str log = ds := by
  obtain ⟨sv, _, sh, sd⟩ := str_spec log h
  obtain ⟨hne, hh, _, hv⟩ := (blockSizeLog_eq_some_iff _ _).mp hl
  exact decimal_unique _ _ sd hds (fun e => (blockSizeLog_eq_some_iff _ _).mp (blockSizeLog_str log h) |>.1 e) hne sh hh
    (sv.trans hv.symm)

theorem text_eq (h : FH) :
    h.text = BlockSize.str h.log ++ 58 :: (h.blockHash1.map b64Char ++ 58 :: h.blockHash2.map b64Char) := by
  unfold FH.text insertBlockHash FH.blockHash1 FH.blockHash2
  simp only [List.append_assoc, List.cons_append, List.nil_append]

theorem chars_content {cap : Nat} {norm : Bool} {y : List UInt8} (h : FH.Content cap norm y) :
    (∀ c ∈ y.map b64Char, isB64 c = true) ∧
    (if norm then collapse (y.map b64Char) else y.map b64Char).map b64Index = y := by
  refine ⟨fun c hc => ?_, ?_⟩
  · obtain ⟨s, hs, rfl⟩ := List.mem_map.mp hc
    exact (b64Char_valid s (h.sym s hs)).1
  · have hinj : ∀ a ∈ y, ∀ b ∈ y, b64Char a = b64Char b → a = b := fun a ha b hb hab => by
      rw [← (b64Char_valid a (h.sym a ha)).2, ← (b64Char_valid b (h.sym b hb)).2, hab]
    cases norm with
    | false => exact map_b64Index_b64Char y h.sym
    | true => rw [if_pos rfl, collapse_map b64Char y hinj, h.norm rfl]; exact map_b64Index_b64Char y h.sym

/-- the reference grammar reads the text of a valid hash back as that hash -/
theorem refParse_text (cfg : Cfg) (s2 : Nat) (norm : Bool) (h : FH) (hv : FH.Valid s2 norm h) :
    refParse cfg s2 norm false h.text =
      .ok ⟨h.log.toNat, h.blockHash1, h.blockHash2, h.text.length⟩ := by
  obtain ⟨_, _, _, hdig⟩ := str_spec h.log hv.log
  obtain ⟨c1v, c1r⟩ := chars_content hv.content1
  obtain ⟨c2v, c2r⟩ := chars_content hv.content2
  have hp1 : pre (h.blockHash1.map b64Char ++ 58 :: h.blockHash2.map b64Char) = h.blockHash1.map b64Char := by
    rw [pre_append _ _ c1v, pre_cons_invalid _ _ (by decide), List.append_nil]
  have hp2 : pre (h.blockHash2.map b64Char) = h.blockHash2.map b64Char := by
    rw [← List.append_nil (List.map ..), pre_append _ _ c2v]; rfl
  have hd : digits (BlockSize.str h.log ++ 58 :: (h.blockHash1.map b64Char ++ 58 :: h.blockHash2.map b64Char)) =
      BlockSize.str h.log := by
    rw [digits_append _ _ hdig, digits_cons_other _ _ (by decide), List.append_nil]
  rw [text_eq]
  refine (refParse_ok_iff ..).mpr ⟨h.log.toNat, h.blockHash1.map b64Char ++ 58 :: h.blockHash2.map b64Char,
    h.blockHash2.map b64Char, ⟨?_, ?_, ?_, ?_⟩, ?_, ?_, ?_⟩
  · exact (afterDigits_append _ _ hdig).trans (afterDigits_cons_other _ _ (by decide))
  · rw [hd]; exact blockSizeLog_str h.log hv.log
  · exact (post_append _ _ c1v).trans (post_cons_invalid _ _ (by decide))
  · intro c r5 hc
    rw [← List.append_nil (List.map ..), post_append _ _ c2v] at hc
    cases hc
  · rw [hp1]; exact fits_of_length_le _ _ _ _ _ (by rw [List.length_map]; exact hv.content1.len_le)
  · rw [hp2]; exact fits_of_length_le _ _ _ _ _ (by rw [List.length_map]; exact hv.content2.len_le)
  · unfold refOf refBh
    rw [hp1, hp2, hd, c1r, c2r]
    congr 1
    simp only [List.length_append, List.length_cons]; omega

/-- **C05 (length).** the text has exactly the advertised length, within the advertised maximum -/
theorem text_length (s2 : Nat) (norm : Bool) (h : FH) (hv : FH.Valid s2 norm h) :
    h.text.length = h.lenInStr ∧ h.lenInStr ≤ FH.maxLenInStr s2 := by
  have l1 : h.blockHash1.length = h.len1.toNat := hv.b1.length_take
  have l2 : h.blockHash2.length = h.len2.toNat := hv.b2.length_take
  refine ⟨?_, ?_⟩
  · rw [text_eq]
    unfold FH.lenInStr
    simp only [List.length_append, List.length_map, l1, l2, List.length_cons]
    omega
  · unfold FH.lenInStr FH.maxLenInStr BlockSize.MAX_BLOCK_SIZE_LEN_IN_CHARS
    have := (str_spec h.log hv.log).2.1; have := hv.b1.len_le; have := hv.b2.len_le
    omega

/-- **C05 (round trip).** the text of every valid hash parses back, in both parser flavours, to the
    same object, consuming the whole text -/
theorem text_roundtrip (cfg : Cfg) (s2 : Nat) (norm : Bool) (h : FH) (hs2 : s2 ≤ 64) (hv : FH.Valid s2 norm h) :
    FH.parse cfg s2 norm h.text = .ok (h, h.text.length) :=
  (C04.parse_ok_iff cfg s2 norm h.text hs2 h _).mpr ⟨hv, refParse_text cfg s2 norm h hv⟩

/-- **C05 (caller buffer).** `store_into_bytes` refuses a buffer that is too small without touching it,
    and otherwise writes exactly the text of `to_string` / `Display` at the start of the buffer -/
theorem storeIntoBytes_contract (h : FH) (buf : List UInt8) :
    (buf.length < h.lenInStr → h.storeIntoBytes buf = none) ∧
    (h.lenInStr ≤ buf.length → h.storeIntoBytes buf = some (setSlice buf 0 h.toStringBytes, h.lenInStr)) := by
  unfold FH.storeIntoBytes FH.toStringBytes
  exact ⟨fun hlt => by rw [if_pos hlt], fun hle => by rw [if_neg (by omega)]⟩

/-- **C05 (parse then format).** formatting a successfully parsed hash gives the canonical text of
    the decoded content; for the raw types this is the input text up to its optional comma, so
    hashes written by ssdeep survive a round trip unchanged; for normalising types it is the
    run-collapsed text -/
theorem parse_then_format (cfg : Cfg) (s2 : Nat) (norm : Bool) (t : List UInt8) (hs2 : s2 ≤ 64) (h : FH) (i : Nat)
    (hp : FH.parse cfg s2 norm t = .ok (h, i)) :
    ∃ r1 r3, t = digits t ++ 58 :: (pre r1 ++ 58 :: (pre r3 ++ post r3)) ∧
      i = (digits t).length + 1 + (pre r1).length + 1 + (pre r3).length ∧
      h.text = digits t ++ 58 :: ((if norm then collapse (pre r1) else pre r1) ++
                 58 :: (if norm then collapse (pre r3) else pre r3)) ∧
      (norm = false → h.text = t.take i) := by
  obtain ⟨hv, hr⟩ := (C04.parse_ok_iff cfg s2 norm t hs2 h i).mp hp
  obtain ⟨log, r1, r3, hF, _, _, hro⟩ := (refParse_ok_iff ..).mp hr
  obtain ⟨hlog, hb1, hb2, hi⟩ := RefOk.mk.inj hro
  have m : ∀ r, ∀ c ∈ (if norm then collapse (pre r) else pre r), isB64 c = true := by
    intro r c hc
    split at hc
    · exact pre_all r c (collapse_mem _ c hc)
    · exact pre_all r c hc
  have htxt : h.text = digits t ++ 58 :: ((if norm then collapse (pre r1) else pre r1) ++
      58 :: (if norm then collapse (pre r3) else pre r3)) := by
    rw [text_eq, str_of_blockSizeLog _ (digits_all t) h.log hv.log (hlog ▸ hF.log), hb1, hb2]
    unfold refBh
    rw [map_b64Char_b64Index _ (m r1), map_b64Char_b64Index _ (m r3)]
  refine ⟨r1, r3, hF.split, hi, htxt, fun hn => ?_⟩
  subst hn
  have hk := List.take_left' (l₁ := digits t ++ 58 :: (pre r1 ++ 58 :: pre r3)) (l₂ := post r3) (i := i)
    (by rw [hi]; simp only [List.length_append, List.length_cons]; omega)
  rw [List.append_assoc, List.cons_append, List.append_assoc, List.cons_append, ← hF.split] at hk
  rw [htxt, hk]
  rfl

end Ffuzzy.C05
