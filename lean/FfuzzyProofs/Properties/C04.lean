/-
  C04 — parsing is total and accepts exactly the fuzzy-hash grammar.
  Reference: `Spec.refParse` (FfuzzyModel/Spec/Grammar.lean), a direct transcription of the statement:
  digits / ':' / base64 characters / ':' / base64 characters / optional ',' …, the block size one of the
  31 valid sizes in canonical decimal, each block hash within the capacity (after run-collapsing for
  normalising types under the default parser, on the raw text for raw and dual types and under the
  strict parser).
-/
import FfuzzyProofs.ParseMain
namespace Ffuzzy.C04
open Ffuzzy.Spec Ffuzzy.ParseField Ffuzzy.ParseMain

/-- **C04 (plain types, both parser flavours).** `from_bytes_with_last_index` on every byte string:
    it succeeds exactly when the reference grammar accepts, the object then holds exactly the decoded
    block size and (for normalising types, run-collapsed) characters, passes the validity check, and the
    reported index is the comma or the end of the text; otherwise it fails naming the offending part
    (the caller's index is only written on success: the model returns no index on failure) -/
theorem parse_exact (cfg : Cfg) (s2 : Nat) (norm : Bool) (t : List UInt8) (hs2 : s2 ≤ 64) :
    (∀ ro, refParse cfg s2 norm false t = .ok ro →
      ∃ h, FH.parse cfg s2 norm t = .ok (h, ro.index) ∧ h.log.toNat = ro.log ∧
        h.blockHash1 = ro.bh1 ∧ h.blockHash2 = ro.bh2 ∧ FH.Valid s2 norm h) ∧
    (∀ o, refParse cfg s2 norm false t = .error o → ∃ e, FH.parse cfg s2 norm t = .error e ∧ e.origin = o) := by
  have hspec := parseThreeFields_spec cfg s2 norm false false t ⟨fun h => by simp at h, fun _ => rfl⟩ (by omega)
  refine ⟨fun ro hro => ?_, fun o ho => ?_⟩
  · obtain ⟨p, hp, ha⟩ := hspec.1 ro hro
    unfold FH.parse
    rw [hp]
    simp only
    rw [ha.index, ha.toFH]
    have hlog : p.log < 31 := show p.log.toNat < 31 from ha.log ▸ ha.logLt
    exact ⟨_, rfl, ha.log, FH.blockHash1_ofContent s2 _ _ (Nat.le_trans ha.fit1 (by decide)),
      FH.blockHash2_ofContent s2 _ _ (by have := ha.fit2; omega), ha.toFH ▸ ⟨hlog, ha.v1, ha.v2⟩⟩
  · obtain ⟨e, he, hor⟩ := hspec.2 o ho
    unfold FH.parse
    rw [he]
    exact ⟨e, rfl, hor⟩

/-- `parse_exact` as a characterisation of the successes: exactly the valid objects whose content and end
    index the reference grammar assigns to the text -/
theorem parse_ok_iff (cfg : Cfg) (s2 : Nat) (norm : Bool) (t : List UInt8) (hs2 : s2 ≤ 64) (h : FH) (i : Nat) :
    FH.parse cfg s2 norm t = .ok (h, i) ↔
      FH.Valid s2 norm h ∧ refParse cfg s2 norm false t = .ok ⟨h.log.toNat, h.blockHash1, h.blockHash2, i⟩ := by
  have hex := parse_exact cfg s2 norm t hs2
  constructor
  · intro hp
    cases hr : refParse cfg s2 norm false t with
    | error o => obtain ⟨e, he, _⟩ := hex.2 o hr; rw [he] at hp; cases hp
    | ok ro =>
      obtain ⟨h', hp', hl, hb1, hb2, hv⟩ := hex.1 ro hr
      rw [hp'] at hp
      cases hp
      exact ⟨hv, by rw [hl, hb1, hb2]⟩
  · rintro ⟨hv, hr⟩
    obtain ⟨h', hp', hl, hb1, hb2, hv'⟩ := hex.1 _ hr
    rw [hp', hv'.ext hv (by unfold FH.abs; rw [hl, hb1, hb2])]

/-- every result of parsing is an error or a valid object (that a result is returned at all is the model's
    form of "never panics": `FH.parse` is a total function, the array writes of the Rust loop are `List.set`) -/
theorem parse_total (cfg : Cfg) (s2 : Nat) (norm : Bool) (t : List UInt8) (hs2 : s2 ≤ 64) :
    (∃ e, FH.parse cfg s2 norm t = .error e) ∨ (∃ h i, FH.parse cfg s2 norm t = .ok (h, i) ∧ FH.Valid s2 norm h) := by
  have := parse_exact cfg s2 norm t hs2
  cases hr : refParse cfg s2 norm false t with
  | error o => obtain ⟨e, he, _⟩ := this.2 o hr; exact Or.inl ⟨e, he⟩
  | ok ro => obtain ⟨h, hh, _, _, _, hv⟩ := this.1 ro hr; exact Or.inr ⟨h, _, hh, hv⟩

/-- a block hash within the capacity for the strict parser is within it for the default parser
    (the strict parser counts the raw characters, the default one at most those) -/
theorem fits_strict_imp (cfgS cfgD : Cfg) (hS : cfgS.strictParser = true)
    (norm dual : Bool) (cap : Nat) (x : List UInt8) (h : fits cfgS norm dual cap x = true) :
    fits cfgD norm dual cap x = true :=
  fits_of_length_le _ _ _ _ _ (length_le_of_fits _ _ _ _ _ (by rw [hS]; simp) h)

/-- the driver for the dual type (`$norm = true`, `$limit_raw = true`) agrees with the reference
    grammar for dual hashes (capacity counted on the raw text) -/
theorem parse_dual_exact (cfg : Cfg) (s2 : Nat) (t : List UInt8) (hs2 : s2 ≤ 64) :
    (∀ ro, refParse cfg s2 true true t = .ok ro →
      ∃ p, parseThreeFields cfg s2 true true t = .ok p ∧ Agrees s2 true p ro) ∧
    (∀ o, refParse cfg s2 true true t = .error o →
      ∃ e, parseThreeFields cfg s2 true true t = .error e ∧ e.origin = o) :=
  parseThreeFields_spec cfg s2 true true true t ⟨fun _ => ⟨rfl, rfl⟩, fun h => by simp at h⟩ (by omega)

/-- non-vacuity: a text the grammar accepts (run of five collapsed to three, trailing comma part) -/
example : (refParse { debugAssertions := true, strictParser := false } 32 true false
    [51, 58, 65, 65, 65, 65, 65, 66, 58, 67, 44, 120]).toOption.map (fun r => (r.log, r.bh1, r.bh2, r.index)) =
    some (0, [0, 0, 0, 1], [2], 10) := by decide

end Ffuzzy.C04
