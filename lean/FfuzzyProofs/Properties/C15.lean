/-
  C15 — Conversions between hash variants commute and lose nothing (plain variants;
  the dual edges are in `Properties/C07.lean`).
-/
import FfuzzyProofs.HashValid
namespace Ffuzzy.C15
open Ffuzzy.Spec

theorem toLongForm_ofContent (log : UInt8) (x : List UInt8) {y : List UInt8} (hy : y.length ≤ 32) :
    FH.toLongForm (FH.ofContent 32 log x y) = FH.ofContent 64 log x y := by
  simp only [FH.toLongForm, FH.ofContent, FULL_SIZE, setSlice_replicate, padTo_padTo 0 hy (by decide : 32 ≤ 64)]

theorem tryIntoMutShort_ofContent (log : UInt8) (x : List UInt8) {y : List UInt8} (dest : FH) (hy : y.length ≤ 64) :
    FH.tryIntoMutShort (FH.ofContent 64 log x y) dest =
      if y.length > 32 then none else some (FH.ofContent 32 log x y) := by
  simp only [FH.tryIntoMutShort, FH.ofContent, HALF_SIZE, toNat_toUInt8 _ (Nat.le_trans hy (by decide : 64 ≤ 255))]
  split
  · rfl
  · rw [take_padTo_of_le 0 (by omega) (by decide : 32 ≤ 64)]

theorem valid_resize {s2 s2' : Nat} {norm : Bool} {h : FH} (hv : FH.Valid s2 norm h) (hs : s2' ≤ 64)
    (h2 : h.blockHash2.length ≤ s2') :
    FH.Valid s2' norm (FH.ofContent s2' h.log h.blockHash1 h.blockHash2) ∧
      FH.abs (FH.ofContent s2' h.log h.blockHash1 h.blockHash2) = FH.abs h := by
  refine ⟨FH.valid_ofContent (by omega) hv.log hv.content1 (hv.content2.mono h2), ?_⟩
  rw [FH.abs, FH.blockHash1_ofContent _ _ _ (Nat.le_trans hv.content1.len_le (by decide)),
    FH.blockHash2_ofContent _ _ _ (by omega)]
  rfl

theorem toLongForm_of_valid {norm : Bool} {h : FH} (hv : FH.Valid 32 norm h) :
    FH.toLongForm h = FH.ofContent 64 h.log h.blockHash1 h.blockHash2 := by
  conv => lhs; rw [hv.eq_ofContent]
  exact toLongForm_ofContent _ _ hv.content2.len_le

theorem tryIntoMutShort_of_valid {norm : Bool} {h : FH} (dest : FH) (hv : FH.Valid 64 norm h) :
    FH.tryIntoMutShort h dest =
      if h.blockHash2.length > 32 then none else some (FH.ofContent 32 h.log h.blockHash1 h.blockHash2) := by
  conv => lhs; rw [hv.eq_ofContent]
  exact tryIntoMutShort_ofContent _ _ dest hv.content2.len_le

theorem toLongForm_spec (norm : Bool) (h : FH) (hv : FH.Valid 32 norm h) :
    FH.Valid 64 norm (FH.toLongForm h) ∧ FH.abs (FH.toLongForm h) = FH.abs h := by
  rw [toLongForm_of_valid hv]
  exact valid_resize hv (by decide) (Nat.le_trans hv.content2.len_le (by decide))

/-- **C15.** narrowing fails exactly when block hash 2 is longer than 32 symbols (the destination is
    then left untouched: the model returns no new object); otherwise it keeps the content -/
theorem tryIntoMutShort_spec (norm : Bool) (h dest : FH) (hv : FH.Valid 64 norm h) :
    (FH.tryIntoMutShort h dest = none ↔ h.len2.toNat > 32) ∧
    (∀ r, FH.tryIntoMutShort h dest = some r → FH.Valid 32 norm r ∧ FH.abs r = FH.abs h) := by
  have hl : h.blockHash2.length = h.len2.toNat := hv.b2.length_take
  rw [tryIntoMutShort_of_valid dest hv]
  by_cases hgt : h.blockHash2.length > 32
  · rw [if_pos hgt]
    exact ⟨iff_of_true rfl (hl ▸ hgt), nofun⟩
  · rw [if_neg hgt]
    refine ⟨iff_of_false nofun (hl ▸ hgt), fun r hr => ?_⟩
    rw [← Option.some.inj hr]
    exact valid_resize hv (by decide) (by omega)

/-- **C15.** widening to the long form and narrowing back is the identity -/
theorem widen_narrow_id (norm : Bool) (h : FH) (hv : FH.Valid 32 norm h) :
    FH.tryFromLong (FH.toLongForm h) = some h := by
  have h2 := hv.content2.len_le
  rw [toLongForm_of_valid hv, FH.tryFromLong, tryIntoMutShort_ofContent _ _ _ (by omega), if_neg (by omega),
    ← hv.eq_ofContent]

/-- **C15 (dirty destinations).** the `into_mut_*` forms do not depend on what the destination held: each
    returns what its `to_*` form builds in a fresh object. The third equation has no destination: it says
    that `From<short normalised> for long raw` is the widening too -/
theorem dest_independent (h dest : FH) (hd : dest.bh2.length = FULL_SIZE) (hl : h.bh2.length = HALF_SIZE) :
    FH.intoMutLongForm h dest = FH.toLongForm h ∧ FH.intoMutRawForm h dest = FH.toRawForm h ∧
    FH.shortNormToLongRaw h = FH.toLongForm h := by
  -- the second and third hold by definition: a field copy; a fresh object is the zero array
  refine ⟨?_, rfl, rfl⟩
  rw [FH.intoMutLongForm, FH.toLongForm, setSlice_replicate, ← hl,
    fillSlice_setSlice _ _ 0 (by rw [hl]; decide), List.drop_of_length_le (Nat.le_of_eq hd), List.append_nil]
  rfl

/-- **C15.** reinterpreting a normalised hash as raw keeps every symbol and stays valid -/
theorem toRawForm_spec (s2 : Nat) (h : FH) (hv : FH.Valid s2 true h) :
    FH.Valid s2 false (FH.toRawForm h) ∧ FH.abs (FH.toRawForm h) = FH.abs h :=
  ⟨hv.toRaw, rfl⟩

/-- The conversion graph on plain variants, abstractly: it acts on contents `FH.abs h`, not on objects.
    `edgeAbs` gives each edge the effect proved of a model function on valid objects: `normalize` stands for
    `FH.normalize false` (`C06.normalize_eq_collapse`), `toRaw` for `FH.toRawForm` (`toRawForm_spec`), `toLong`
    for `FH.toLongForm` (`toLongForm_spec`), `toShort` for `FH.tryIntoMutShort` (`tryIntoMutShort_spec`). Every
    edge either keeps the content or applies `collapse` to both block hashes. `conv_chain_eq_direct` speaks
    of this graph only; the link to the model is those four theorems, edge by edge. -/
inductive Edge where
  | normalize      -- raw → normalised (same capacity)
  | toRaw          -- normalised → raw
  | toLong         -- short → long
  | toShort        -- long → short (may fail)

/-- effect of an edge on the abstract content `(k, bh1, bh2)`; `none` = the conversion fails -/
def edgeAbs : Edge → (Nat × List UInt8 × List UInt8) → Option (Nat × List UInt8 × List UInt8)
  | .normalize, (k, a, b) => some (k, collapse a, collapse b)
  | .toRaw, x => some x
  | .toLong, x => some x
  | .toShort, (k, a, b) => if b.length > 32 then none else some (k, a, b)

def chainAbs : List Edge → (Nat × List UInt8 × List UInt8) → Option (Nat × List UInt8 × List UInt8)
  | [], x => some x
  | e :: es, x => (edgeAbs e x).bind (chainAbs es)

theorem edgeAbs_eq {e : Edge} {x z : Nat × List UInt8 × List UInt8} (h : edgeAbs e x = some z) :
    z = match e with | .normalize => (x.1, collapse x.2.1, collapse x.2.2) | _ => x := by
  obtain ⟨k, a, b⟩ := x
  cases e with
  | toShort =>
    rw [edgeAbs] at h
    split at h
    · cases h
    · exact (Option.some.inj h).symm
  | _ => exact (Option.some.inj h).symm

/-- **C15 (chains).** a successful chain of conversions yields the source content, run-collapsed iff a
    normalising edge lies on the path — i.e. exactly what the direct conversion yields -/
theorem conv_chain_eq_direct (es : List Edge) : ∀ (x y : Nat × List UInt8 × List UInt8),
    chainAbs es x = some y →
      y = (if es.any (fun e => match e with | .normalize => true | _ => false)
           then (x.1, collapse x.2.1, collapse x.2.2) else x) := by
  induction es with
  | nil => exact fun x y h => (Option.some.inj h).symm
  | cons e es ih =>
    intro x y h
    obtain ⟨z, hz, hy⟩ := Option.bind_eq_some_iff.mp h
    rw [ih z y hy, edgeAbs_eq hz, List.any_cons]
    cases e with
    | normalize =>
      -- collapsed here, and perhaps once more further on: `collapse` is idempotent
      rw [Bool.true_or, if_pos rfl]
      split
      · simp only [Collapse.collapse_idem]
      · rfl
    | _ => rfl

/-- non-vacuity -/
example : FH.tryFromLong (FH.toLongForm (FH.new 32)) = some (FH.new 32) := by decide

end Ffuzzy.C15
