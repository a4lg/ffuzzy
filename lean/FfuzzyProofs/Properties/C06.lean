/-
  C06 — Normalization collapses runs to three, idempotently, on every route.
-/
import FfuzzyProofs.HashValid
namespace Ffuzzy.C06
open Ffuzzy.Spec

/-- **C06 (main).** Normalising a valid raw hash yields a valid normalised hash whose block size is
    unchanged and whose block hashes are the run-collapsed block hashes (`Spec.collapse`: an element
    is dropped iff it is preceded by three equal elements — every run longer than three becomes
    exactly three, everything else is kept in order). -/
theorem normalize_eq_collapse (s2 : Nat) (hs2 : s2 ≤ 64) (h : FH) (hv : FH.Valid s2 false h) :
    let n := FH.normalize false h
    FH.Valid s2 true n ∧ n.log = h.log ∧
    n.blockHash1 = collapse h.blockHash1 ∧ n.blockHash2 = collapse h.blockHash2 := by
  intro n
  have c1 := hv.b1.content.collapsed
  have c2 := hv.b2.content.collapsed
  have e : n = _ := hv.normalize (by omega)
  rw [e]
  exact ⟨FH.valid_ofContent (by omega) hv.log c1 c2, rfl,
    FH.blockHash1_ofContent _ _ _ (Nat.le_trans c1.len_le (by decide)),
    FH.blockHash2_ofContent _ _ _ (Nat.le_trans c2.len_le (by omega))⟩

/-- the whole object after normalisation is determined: collapsed contents, zero filled -/
theorem normalize_arrays (s2 : Nat) (hs2 : s2 ≤ 64) (h : FH) (hv : FH.Valid s2 false h) :
    (FH.normalize false h).bh1 =
      collapse h.blockHash1 ++ List.replicate (FULL_SIZE - (collapse h.blockHash1).length) 0 ∧
    (FH.normalize false h).bh2 =
      collapse h.blockHash2 ++ List.replicate (s2 - (collapse h.blockHash2).length) 0 := by
  rw [hv.normalize (by omega)]
  exact ⟨rfl, rfl⟩

/-- **C06.** collapsing twice equals collapsing once (the content; `normalize_idem` says it of the object) -/
theorem collapse_idem (xs : List UInt8) : collapse (collapse xs) = collapse xs := Collapse.collapse_idem xs

/-- for a normalising type (`NORM = true`) `normalize_in_place` does nothing, to any object, valid or not:
    it skips the loop (`originallyNormalized`) -/
theorem normalize_norm_id (h : FH) : FH.normalizeInPlace true h = h := rfl

theorem normalize_of_collapsed (s2 : Nat) (hs2 : s2 ≤ 64) (h : FH) (hv : FH.Valid s2 false h)
    (c1 : collapse h.blockHash1 = h.blockHash1) (c2 : collapse h.blockHash2 = h.blockHash2) :
    FH.normalize false h = h := by
  rw [hv.normalize (by omega), c1, c2]
  exact hv.eq_ofContent.symm

/-- re-normalising the result of a normalisation (viewed as raw again) changes nothing -/
theorem normalize_idem (s2 : Nat) (hs2 : s2 ≤ 64) (h : FH) (hv : FH.Valid s2 false h) :
    FH.normalize false (FH.normalize false h) = FH.normalize false h :=
  have hn := (normalize_eq_collapse s2 hs2 h hv).1
  normalize_of_collapsed s2 hs2 _ hn.toRaw (hn.b1.norm rfl) (hn.b2.norm rfl)

theorem verifyBlockHashCurrent_iff (bh : List UInt8) (len : UInt8) (hs : ∀ x ∈ bh.take len.toNat, x < 64) :
    verifyBlockHashCurrent bh len false false false = true ↔
      collapse (bh.take len.toNat) = bh.take len.toNat :=
  (verifyBlockHash_iff bh len false false true fun _ => sym_ne_invalid hs).trans
    ⟨fun h => h.2.1 rfl, fun h => ⟨nofun, fun _ => h, nofun⟩⟩

/-- **C06.** the is-normalised query is true exactly for hashes that normalisation leaves unchanged -/
theorem isNormalized_iff (s2 : Nat) (hs2 : s2 ≤ 64) (h : FH) (hv : FH.Valid s2 false h) :
    FH.isNormalized false h = true ↔ FH.normalize false h = h := by
  rw [FH.isNormalized, Bool.and_eq_true, verifyBlockHashCurrent_iff _ _ hv.b1.sym,
    verifyBlockHashCurrent_iff _ _ hv.b2.sym]
  constructor
  · exact fun c => normalize_of_collapsed s2 hs2 h hv c.1 c.2
  · intro e
    obtain ⟨_, _, e1, e2⟩ := normalize_eq_collapse s2 hs2 h hv
    rw [e] at e1 e2
    exact ⟨e1.symm, e2.symm⟩

/-- **C06 (routes).** `normalize`, `normalize_in_place` and `clone_normalized` are one function of the
    object. This holds by definition: the model gives each of the three the body of
    `normalize_in_place_internal::<NORM>`, which is all that their Rust bodies call. `From<raw>` has no
    definition of its own in the model: the operation interpreter (`Ops.lean`, `R_N` / `LR_LN`) runs
    `FH.normalize` for it. -/
theorem routes_agree (norm : Bool) (h : FH) :
    FH.normalize norm h = FH.normalizeInPlace norm h ∧ FH.cloneNormalized norm h = FH.normalizeInPlace norm h :=
  ⟨rfl, rfl⟩

/-- non-vacuity: a valid raw object with runs exists, and normalisation really changes it -/
example : ∃ h : FH, FH.Valid 32 false h ∧ collapse h.blockHash1 = [1, 1, 1, 2] ∧ h.blockHash1 ≠ [1, 1, 1, 2] :=
  ⟨{ bh1 := [1, 1, 1, 1, 1, 2] ++ List.replicate 58 0, bh2 := List.replicate 32 0, len1 := 6, len2 := 0, log := 3 },
   (FH.isValid_iff 32 false _ (by decide) (by decide)).mp (by decide), by decide, by decide⟩

end Ffuzzy.C06
