/-
  C03 — the hash depends only on the byte stream, not on how it is fed.
  `finalize*`, `clone`, `input_size` take `&self` / produce a value: in the model they are pure
  functions of the state, so "finalising never disturbs subsequent updates" is the statement that the
  state after a history does not depend on finalisations — they are simply not state-changing calls
  (the harness checks at run time that the Rust object is bit-identical before and after).
-/
import FfuzzyProofs.Properties.C01
import FfuzzyProofs.Properties.C18
namespace Ffuzzy.C03
open Ffuzzy.Spec Ffuzzy.GenSim

/-- the bytes a data call delivers -/
def payload : GOp → List UInt8
  | .update bs => bs
  | .iter bs => bs
  | .byte c => [c]
  | .hint _ => []
  | .reset => []

def isData : GOp → Bool
  | .update _ => true
  | .iter _ => true
  | .byte _ => true
  | _ => false

theorem abs_apply_data (a : Abs) (op : GOp) (h : isData op = true) :
    a.apply op = { a with bytes := a.bytes ++ payload op } := by
  cases op with
  | update _ | iter _ | byte _ => rfl
  | hint _ | reset => exact absurd h Bool.false_ne_true

theorem abs_data (ops : List GOp) (hd : ∀ op ∈ ops, isData op = true) : ∀ a : Abs,
    ops.foldl Abs.apply a = { a with bytes := a.bytes ++ ops.flatMap payload } := by
  induction ops with
  | nil => intro a; simp
  | cons op ops ih =>
    intro a
    rw [List.foldl_cons, abs_apply_data a op (hd op List.mem_cons_self),
      ih (fun o ho => hd o (List.mem_cons_of_mem _ ho)), List.flatMap_cons, List.append_assoc]

/-- **C03.** any split of a byte string into chunks, delivered by any mix of the slice, iterator and
    single-byte forms (`+=` is the slice form), gives the state whose every finalisation and reported
    input size equal those of feeding the whole string in one call -/
theorem feeding_independent (ops : List GOp) (hd : ∀ op ∈ ops, isData op = true)
    (trunc : Bool) (s2 : Nat) (hs2 : s2 = 32 ∨ s2 = 64) :
    (ops.foldl GOp.apply Gen.new).finalizeRaw trunc s2 = (Gen.new.update (ops.flatMap payload)).finalizeRaw trunc s2 ∧
    (ops.foldl GOp.apply Gen.new).inputSize = (Gen.new.update (ops.flatMap payload)).inputSize := by
  have hJ := J_history ops Gen.new _ J_new
  rw [abs_data ops hd] at hJ
  have hJ1 := J_update Gen.new _ (ops.flatMap payload) J_new
  refine ⟨?_, ?_⟩
  · rw [J_final _ _ hJ trunc s2 hs2, J_final _ _ hJ1 trunc s2 hs2]
  · rw [hJ.size, hJ1.size]

/-- **C03 (reference).** however the bytes are fed (any mix of the three data forms), every finalisation returns the
    reference digest of the concatenated payload -/
theorem feeding_eq_reference (ops : List GOp) (hd : ∀ op ∈ ops, isData op = true)
    (trunc : Bool) (s2 : Nat) (hs2 : s2 = 32 ∨ s2 = 64) :
    (ops.foldl GOp.apply Gen.new).finalizeRaw trunc s2 = naiveDigest (ops.flatMap payload) trunc s2 := by
  rw [(feeding_independent ops hd trunc s2 hs2).1, C01.generator_eq_reference _ trunc s2 hs2]

/-- the one-shot buffer function agrees with feeding the buffer to a generator in one call -/
theorem hashBuf_eq_generator (bs : List UInt8) (hlen : bs.length ≤ Gen.MAX_INPUT_SIZE) :
    Gen.hashBuf bs = (Gen.new.update bs).finalize := by
  rw [C01.hashBuf_eq_reference bs hlen, C01.finalize_eq_reference]

/-- the reader-based function under arbitrarily short reads: when no read fails, the result is the
    one-call hash of the bytes the reader delivered -/
theorem hashStream_eq_generator (data : List UInt8) (sizes : List Nat) :
    hashStream data sizes none =
      match (Gen.new.update (C18.chunks data sizes (data.length + sizes.length + 2)).flatten).finalize with
      | .error e => .error (.gen e)
      | .ok d => .ok d := by
  rw [C18.hashStream_script data sizes none]
  unfold Gen.finalize
  rw [J_final _ _ (J_updates _ _ _ J_new) true 32 (Or.inl rfl), J_final _ _ (J_update _ _ _ J_new) true 32 (Or.inl rfl)]
  rfl

/-- non-vacuity: a three-call history with a split inside a 7-byte window -/
example : ([GOp.update [1, 2, 3], GOp.byte 4, GOp.iter [5, 6, 7, 8]].foldl GOp.apply Gen.new).finalizeRaw true 32 =
    (Gen.new.update [1, 2, 3, 4, 5, 6, 7, 8]).finalizeRaw true 32 :=
  (feeding_independent _ (by decide) true 32 (Or.inl rfl)).1

end Ffuzzy.C03
