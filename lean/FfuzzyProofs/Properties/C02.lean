/-
  C02 — the similarity score equals the ssdeep score on every pair of well-formed hashes.
  Composition of C08 (bit-parallel edit distance = LCS distance), C09 (substring filter exact) and the
  dispatch on the block-size relation (`C20.compareSizes_eq`); the score arithmetic is unfolded in
  `scoreStrings_eq_spec`.
-/
import FfuzzyProofs.Properties.C08
import FfuzzyProofs.Properties.C09
import FfuzzyProofs.Properties.C16
import FfuzzyProofs.Properties.C17
import FfuzzyProofs.Properties.C04
import FfuzzyProofs.Score
import FfuzzyProofs.Properties.C20
namespace Ffuzzy.C02

theorem scoreStrings_eq_spec (a b : List UInt8) (k : Nat) (hlen : a.length ≤ 64) (hall : ∀ x ∈ a, x.toNat < 64) :
    (PA.new.initFromPartial a).scoreStringsInternal b k = Spec.scorePair a b k := by
  unfold PA.scoreStringsInternal PA.scoreStringsRawInternal Spec.scorePair Spec.scorePairWith
  simp only
  rw [C09.hasCommonSubstring_initFromPartial a b hlen hall, C08.editDistance_initFromPartial a b hlen hall,
    PosInit.initFromPartial_len _ a hlen]
  unfold PA.rawScoreByEditDistanceInternal PA.scoreCapInternal PA.CAPPING_BORDER FULL_SIZE
  cases hcm : Spec.common7 a b
  · simp only [Bool.not_false, if_true]
    split
    · rfl
    · exact Nat.zero_min _
  · simp only [Bool.not_true, Bool.false_eq_true, if_false]
    by_cases hk : k ≥ 4
    · have : ¬ k < 4 := by omega
      simp only [hk, if_true, this, if_false]
      rw [Nat.mul_comm _ 64]
    · have : k < 4 := by omega
      simp only [hk, if_false, this, if_true, Nat.shiftLeft_eq, Nat.one_mul]
      rw [Nat.mul_comm _ 64]

theorem compareSizes_cases (l r : UInt8) :
    (l.toNat = r.toNat ∧ BlockSize.compareSizes l r = .nearEq) ∨
    (l.toNat + 1 = r.toNat ∧ BlockSize.compareSizes l r = .nearLt) ∨
    (l.toNat = r.toNat + 1 ∧ BlockSize.compareSizes l r = .nearGt) ∨
    ((l.toNat + 1 < r.toNat ∨ r.toNat + 1 < l.toNat) ∧ BlockSize.compareSizes l r = .far) := by
  rw [C20.compareSizes_eq l r]
  rcases C10.near_cases l.toNat r.toNat with h | h | h | h
  · exact .inl ⟨h, if_pos h⟩
  · exact .inr (.inl ⟨h, by rw [if_neg (by omega), if_pos h]⟩)
  · exact .inr (.inr (.inl ⟨h, by rw [if_neg (by omega), if_neg (by omega), if_pos h]⟩))
  · exact .inr (.inr (.inr ⟨h, by rw [if_neg (by omega), if_neg (by omega), if_neg (by omega)]⟩))

/-- the ssdeep score (`Spec.score`) of what two hashes stand for: block size index and the two block hash contents -/
def specScore (a b : FH) : Nat :=
  Spec.score a.log.toNat a.blockHash1 a.blockHash2 b.log.toNat b.blockHash1 b.blockHash2

theorem eq_iff_spec (s2 : Nat) (a b : FH) (ha : FH.Valid s2 true a) (hb : FH.Valid s2 true b) :
    FH.eq a b = true ↔ a.log.toNat = b.log.toNat ∧ a.blockHash1 = b.blockHash1 ∧ a.blockHash2 = b.blockHash2 := by
  rw [(C16.eq_iff s2 true a b ha hb).1, FH.abs_eq_abs_iff, UInt8.toNat_inj]

theorem target_scores (s2 : Nat) (hs2 : s2 ≤ 64) (a : FH) (ha : FH.Valid s2 true a) (y : List UInt8) (k : Nat) :
    (Target.fromHash a).pa1.scoreStringsInternal y k = Spec.scorePair a.blockHash1 y k ∧
    (Target.fromHash a).pa2.scoreStringsInternal y k = Spec.scorePair a.blockHash2 y k :=
  ⟨scoreStrings_eq_spec _ _ _ ha.content1.len_le ha.content1.sym,
    scoreStrings_eq_spec _ _ _ (Nat.le_trans ha.content2.len_le hs2) ha.content2.sym⟩

/-- **C02 (hash-to-hash).** `FuzzyHashData::compare` returns the ssdeep score on every pair of valid
    (normalised) hashes of one type -/
theorem compare_eq_spec (s2 : Nat) (hs2 : s2 ≤ 64) (a b : FH) (ha : FH.Valid s2 true a) (hb : FH.Valid s2 true b) :
    FH.compare a b = specScore a b := by
  have hs := target_scores s2 hs2 a ha
  unfold FH.compare FH.compareOptimized specScore
  rcases compareSizes_cases a.log b.log with ⟨hk, hr⟩ | ⟨hk, hr⟩ | ⟨hk, hr⟩ | ⟨hk, hr⟩
  · rw [hr, ← hk, C10.score_same, Bool.true_and, Target.compareUnequalNearEq, (hs _ _).1, (hs _ _).2]
    exact ite_congr (propext ((eq_iff_spec s2 a b ha hb).trans (and_iff_right hk))) (fun _ => rfl) (fun _ => rfl)
  · rw [hr, ← hk, C10.score_succ, hk]
    exact scoreStrings_eq_spec _ _ _ (Nat.le_trans ha.content2.len_le hs2) ha.content2.sym
  · rw [hr, hk, C10.score_pred, ← hk]
    exact scoreStrings_eq_spec _ _ _ ha.content1.len_le ha.content1.sym
  · rw [hr, C10.score_far _ _ _ _ _ _ hk]

/-- **C02 (reusable target).** `FuzzyHashCompareTarget::compare` returns the same score -/
theorem target_compare_eq_spec (s2 : Nat) (hs2 : s2 ≤ 64) (a b : FH) (ha : FH.Valid s2 true a) (hb : FH.Valid s2 true b) :
    (Target.fromHash a).compare b = specScore a b := by
  have hs := target_scores s2 hs2 a ha
  have hlog : (Target.fromHash a).log = a.log := rfl
  unfold Target.compare specScore
  rw [hlog]
  rcases compareSizes_cases a.log b.log with ⟨hk, hr⟩ | ⟨hk, hr⟩ | ⟨hk, hr⟩ | ⟨hk, hr⟩
  · have hequiv : (Target.fromHash a).isEquivExceptBlockSize b = true ↔ _ :=
      C17.target_isEquivExceptBlockSize_iff s2 Target.new a b hs2 ha hb
    rw [hr, ← hk, C10.score_same, Target.compareNearEq, Target.compareUnequalNearEq, (hs _ _).1, (hs _ _).2]
    exact ite_congr (propext (hequiv.trans (and_congr eq_comm eq_comm))) (fun _ => rfl) (fun _ => rfl)
  · rw [hr, ← hk, C10.score_succ, hk]
    exact (hs _ _).2
  · rw [hr, hk, C10.score_pred, ← hk]
    exact (hs _ _).1
  · rw [hr, C10.score_far _ _ _ _ _ _ hk]

/-- **C02 (reused target).** a target re-initialised from `a` after any history of earlier initialisations (C17)
    returns the specified score as well -/
theorem target_history_compare_eq_spec (s2 : Nat) (hs2 : s2 ≤ 64) (ops : List C17.TgtOp) (a b : FH)
    (ha : FH.Valid s2 true a) (hb : FH.Valid s2 true b) :
    ((C17.tgtRun Target.new ops).initFrom a).compare b = specScore a b := by
  rw [C17.target_initFrom_history_indep]
  exact target_compare_eq_spec s2 hs2 a b ha hb

/-- **C02 (string front end).** `compare(&str, &str)` parses both operands as long hashes and returns
    the hash-to-hash score of the parsed objects -/
theorem compareEasy_eq (cfg : Cfg) (l r : List UInt8) (a b : FH) (n1 n2 : Nat)
    (hl : FH.parse cfg FULL_SIZE true l = .ok (a, n1)) (hr : FH.parse cfg FULL_SIZE true r = .ok (b, n2)) :
    compareEasy cfg l r = .ok (FH.compare a b) := by
  unfold compareEasy; rw [hl, hr]

/-- **C02 (string front end, full).** on every pair of texts: an error, or the specified score of the two
    parsed (valid, normalised) long hashes (when an error is returned and which side it names is decided by
    the `cmp` correspondence family, not stated here) -/
theorem compareEasy_eq_spec (cfg : Cfg) (l r : List UInt8) :
    (∃ e, compareEasy cfg l r = .error e) ∨
    (∃ a b n1 n2, FH.parse cfg FULL_SIZE true l = .ok (a, n1) ∧ FH.parse cfg FULL_SIZE true r = .ok (b, n2) ∧
      FH.Valid FULL_SIZE true a ∧ FH.Valid FULL_SIZE true b ∧ compareEasy cfg l r = .ok (specScore a b)) := by
  rcases C04.parse_total cfg FULL_SIZE true l (by decide) with ⟨e, he⟩ | ⟨a, n1, ha, hva⟩
  · left; exact ⟨(false, e), by unfold compareEasy; rw [he]⟩
  · rcases C04.parse_total cfg FULL_SIZE true r (by decide) with ⟨e, he⟩ | ⟨b, n2, hb, hvb⟩
    · left; exact ⟨(true, e), by unfold compareEasy; rw [ha, he]⟩
    · right
      refine ⟨a, b, n1, n2, ha, hb, hva, hvb, ?_⟩
      rw [compareEasy_eq cfg l r a b n1 n2 ha hb, compare_eq_spec FULL_SIZE (by decide) a b hva hvb]

/-- non-vacuity: two concrete valid hashes with a non-trivial score -/
example : ∃ a b : FH, FH.Valid 32 true a ∧ FH.Valid 32 true b ∧ FH.compare a b = specScore a b :=
  let a : FH := { bh1 := padTo [1, 2, 3, 4, 5, 6, 7, 8] 64 0, bh2 := padTo [] 32 0, len1 := 8, len2 := 0, log := 3 }
  let b : FH := { bh1 := padTo [9, 1, 2, 3, 4, 5, 6, 7] 64 0, bh2 := padTo [] 32 0, len1 := 8, len2 := 0, log := 3 }
  have ha : FH.Valid 32 true a := (FH.isValid_iff 32 true a (by decide) (by decide)).mp (by decide)
  have hb : FH.Valid 32 true b := (FH.isValid_iff 32 true b (by decide) (by decide)).mp (by decide)
  ⟨a, b, ha, hb, compare_eq_spec 32 (by omega) a b ha hb⟩

end Ffuzzy.C02
