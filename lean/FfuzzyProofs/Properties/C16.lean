/-
  C16 — Equality, hashing and ordering are consistent and follow the documented order.
  The byte-list orders of the model (`FH.cmpBytes`) and of the specification (`lex`) are `compare` on lists,
  and `FH.cmp` / `DH.cmp` are lexicographic products of `compare`s, so the order laws (total, `.eq` is
  equality, transitive) are those of core's `Std.TransCmp` / `Std.LawfulEqCmp` instances.
-/
import FfuzzyProofs.HashValid
import FfuzzyModel.Driver2
import FfuzzyModel.Dual
namespace Ffuzzy.C16
open Std

/-- the documented order on block hashes: lexicographic on symbol values, a proper prefix first -/
abbrev lex := Driver.specLex

theorem lex_eq_compare : ∀ x y : List UInt8, lex x y = compare x y
  | [], [] => rfl
  | [], _ :: _ => rfl
  | _ :: _, [] => rfl
  | a :: as, b :: bs => by
    rw [List.compare_cons_cons, ← lex_eq_compare as bs, u8_compare, Nat.compare_eq_ite_lt]
    show (if a.toNat < b.toNat then _ else if b.toNat < a.toNat then _ else _) = _
    split
    · rfl
    · split <;> rfl

theorem cmpBytes_eq_lex : ∀ x y : List UInt8, FH.cmpBytes x y = lex x y
  | [], [] => rfl
  | [], _ :: _ => rfl
  | _ :: _, [] => rfl
  | a :: as, b :: bs => by rw [FH.cmpBytes, lex, Driver.specLex, cmpBytes_eq_lex as bs]

/-- the order laws of `lex`, from core's instances for `compare` on lists -/
theorem lex_eq_iff (x y : List UInt8) : lex x y = .eq ↔ x = y := by
  rw [lex_eq_compare]; exact LawfulEqOrd.compare_eq_iff_eq

theorem lex_swap (x y : List UInt8) : lex y x = (lex x y).swap := by
  rw [lex_eq_compare, lex_eq_compare]; exact OrientedOrd.eq_swap

theorem lex_trans_lt (x y z : List UInt8) : lex x y = .lt → lex y z = .lt → lex x z = .lt := by
  rw [lex_eq_compare, lex_eq_compare, lex_eq_compare]; exact TransCmp.lt_trans

/-- `Ord for FuzzyHashData` compares the tuple `(log, &bh1, len1, &bh2, len2)` -/
theorem cmp_eq_compareLex : FH.cmp = compareLex (compareOn (·.log)) (compareLex (compareOn (·.bh1))
    (compareLex (compareOn (·.len1)) (compareLex (compareOn (·.bh2)) (compareOn (·.len2))))) := by
  funext a b
  simp only [FH.cmp, cmpBytes_eq_lex, lex_eq_compare]
  rfl

-- scoped: `compare` on hash objects means the model's `cmp` inside this namespace only
scoped instance : Ord FH := ⟨FH.cmp⟩

scoped instance : TransOrd FH := show TransCmp FH.cmp from cmp_eq_compareLex ▸ inferInstance

/-- without any validity assumption: `cmp` sees every field -/
scoped instance : LawfulEqOrd FH where
  compare_self := ReflCmp.compare_self
  eq_of_compare {a b} h := by
    have h : FH.cmp a b = .eq := h
    simp only [cmp_eq_compareLex, compareLex_eq_eq, compareOn, LawfulEqOrd.compare_eq_iff_eq] at h
    cases a; cases b
    obtain ⟨rfl, rfl, rfl, rfl, rfl⟩ := h
    rfl

/-- `Ord for FuzzyHashDualData` compares the tuple `(norm_hash, rle_block1, rle_block2)` -/
theorem dual_cmp_eq_compareLex : DH.cmp = compareLex (compareOn (·.norm)) (compareLex (compareOn (·.rle1)) (compareOn (·.rle2))) := by
  funext a b
  simp only [DH.cmp, cmpBytes_eq_lex, lex_eq_compare]
  rfl

scoped instance : Ord DH := ⟨DH.cmp⟩

scoped instance : TransOrd DH := show TransCmp DH.cmp from dual_cmp_eq_compareLex ▸ inferInstance

scoped instance : LawfulEqOrd DH where
  compare_self := ReflCmp.compare_self
  eq_of_compare {a b} h := by
    have h : DH.cmp a b = .eq := h
    simp only [dual_cmp_eq_compareLex, compareLex_eq_eq, compareOn, LawfulEqOrd.compare_eq_iff_eq] at h
    cases a; cases b
    obtain ⟨rfl, rfl, rfl⟩ := h
    rfl

theorem zeros_isLE : ∀ (n : Nat) (l : List UInt8), n ≤ l.length → (compare (List.replicate n (0 : UInt8)) l).isLE
  | 0, l, _ => List.isLE_compare_nil_left
  | n + 1, b :: bs, h => by
    rw [List.replicate_succ, List.compare_cons_cons, Ordering.isLE_then_iff_and]
    exact ⟨(LawfulOrderOrd.isLE_compare 0 b).mpr UInt8.zero_le, Or.inr (zeros_isLE n bs (Nat.le_of_succ_le_succ h))⟩

theorem compare_zeros_pad (y : List UInt8) (n : Nat) (hy : y.length ≤ n) :
    (compare (List.replicate n 0) (padTo y n 0)).then (compare 0 y.length) = compare [] y := by
  cases y with
  | nil => rw [padTo_nil, ReflCmp.compare_self (cmp := compare)]; rfl
  | cons b bs =>
    have hle := zeros_isLE n (padTo (b :: bs) n 0) (Nat.le_of_eq (length_padTo 0 hy).symm)
    rw [List.length_cons, Nat.compare_eq_lt.mpr (Nat.succ_pos _)]
    -- the arrays do not compare `.gt`, so the `.lt` of the lengths decides, or agrees
    cases h : compare (List.replicate n 0) (padTo (b :: bs) n 0) with
    | gt => rw [h] at hle; cases hle
    | lt | eq => rfl

theorem cmpBytes_pad : ∀ (x y : List UInt8) (n : Nat), x.length ≤ n → y.length ≤ n →
    (FH.cmpBytes (padTo x n 0) (padTo y n 0)).then (compare x.length y.length) = lex x y := by
  intro x y n hx hy
  rw [cmpBytes_eq_lex, lex_eq_compare, lex_eq_compare]
  induction x generalizing y n with
  | nil => exact compare_zeros_pad y n hy
  | cons a as ih =>
    cases y with
    | nil =>
      -- the mirror image of `compare_zeros_pad`
      rw [OrientedCmp.eq_swap (cmp := compare) (a := padTo (a :: as) n 0),
        OrientedCmp.eq_swap (cmp := compare) (a := (a :: as).length), ← Ordering.swap_then]
      exact congrArg Ordering.swap (compare_zeros_pad _ n hx)
    | cons b bs =>
      obtain ⟨m, rfl⟩ : ∃ m, n = m + 1 := ⟨n - 1, by rw [List.length_cons] at hx; omega⟩
      rw [padTo_cons, padTo_cons, List.compare_cons_cons, List.compare_cons_cons, Ordering.then_assoc,
        List.length_cons, List.length_cons, compare_succ_succ,
        ih bs m (Nat.le_of_succ_le_succ hx) (Nat.le_of_succ_le_succ hy)]

/-- `==` compares the fields that `Hash` writes, in another order -/
theorem eq_unfold (a b : FH) : FH.eq a b = true ↔
    a.log = b.log ∧ a.len1 = b.len1 ∧ a.len2 = b.len2 ∧
      a.blockHash1 = b.blockHash1 ∧ a.blockHash2 = b.blockHash2 := by
  simp only [FH.eq, Bool.if_false_left, Bool.not_eq_true', decide_eq_false_iff_not, Bool.not_eq_false,
    Bool.and_eq_true, beq_iff_eq, and_assoc]
  exact ⟨fun ⟨h1, h2, h0, h⟩ => ⟨h0, h1, h2, h⟩, fun ⟨h0, h1, h2, h⟩ => ⟨h1, h2, h0, h⟩⟩

/-- **C16 (order).** For valid hashes of one type the implementation's `Ord` (tuple comparison of
    log block size, zero-padded arrays and lengths) is the documented order: block size, then
    block hash 1 lexicographically by symbol value with a proper prefix first, then block hash 2. -/
theorem cmp_is_lex (s2 : Nat) (norm : Bool) (a b : FH) (ha : FH.Valid s2 norm a) (hb : FH.Valid s2 norm b) :
    FH.cmp a b = (compare a.log b.log).then ((lex a.blockHash1 b.blockHash1).then (lex a.blockHash2 b.blockHash2)) := by
  have c1 := cmpBytes_pad _ _ FULL_SIZE ha.b1.content.len_le hb.b1.content.len_le
  have c2 := cmpBytes_pad _ _ s2 ha.b2.content.len_le hb.b2.content.len_le
  rw [← ha.b1.eq_padTo, ← hb.b1.eq_padTo, ha.b1.length_take, hb.b1.length_take, ← u8_compare] at c1
  rw [← ha.b2.eq_padTo, ← hb.b2.eq_padTo, ha.b2.length_take, hb.b2.length_take, ← u8_compare] at c2
  rw [FH.cmp, ← Ordering.then_assoc (FH.cmpBytes a.bh1 b.bh1), c1, c2]
  rfl

/-- **C16 (equality).** valid hashes are `==` exactly when block size and both block hashes agree,
    and then they are the same object (so every observable, in particular the text, agrees) -/
theorem eq_iff (s2 : Nat) (norm : Bool) (a b : FH) (ha : FH.Valid s2 norm a) (hb : FH.Valid s2 norm b) :
    (FH.eq a b = true ↔ FH.abs a = FH.abs b) ∧ (FH.eq a b = true ↔ a = b) := by
  have h1 : FH.eq a b = true → FH.abs a = FH.abs b := fun h => by
    obtain ⟨e0, _, _, e1, e2⟩ := (eq_unfold a b).mp h
    exact (FH.abs_eq_abs_iff a b).mpr ⟨e0, e1, e2⟩
  have h2 : a = b → FH.eq a b = true := fun h => (eq_unfold a b).mpr (h ▸ ⟨rfl, rfl, rfl, rfl, rfl⟩)
  have h3 := FH.Valid.ext ha hb
  exact ⟨⟨h1, fun h => h2 (h3 h)⟩, ⟨fun h => h3 (h1 h), h2⟩⟩

/-- **C16 (hashing).** equal objects feed the hasher the same `write` calls (and conversely) -/
theorem eq_iff_hashwrites_eq (a b : FH) : FH.eq a b = true ↔ FH.hashWrites a = FH.hashWrites b := by
  simp only [eq_unfold, FH.hashWrites, List.cons.injEq, and_true]

/-- **C16 (total order).** `cmp` is a total order on valid hashes whose `Equal` coincides with `==` -/
theorem cmp_total_order (s2 : Nat) (norm : Bool) (a b c : FH)
    (ha : FH.Valid s2 norm a) (hb : FH.Valid s2 norm b) (hc : FH.Valid s2 norm c) :
    (FH.cmp a b = .eq ↔ FH.eq a b = true) ∧
    FH.cmp b a = (FH.cmp a b).swap ∧
    (FH.cmp a b = .lt → FH.cmp b c = .lt → FH.cmp a c = .lt) :=
  ⟨(LawfulEqOrd.compare_eq_iff_eq (a := a)).trans (eq_iff s2 norm a b ha hb).2.symm,
   OrientedOrd.eq_swap (a := b), TransCmp.lt_trans (cmp := compare) (a := a) (b := b) (c := c)⟩

/-- **C16 (dual).** dual hashes with different normalised parts order exactly as those parts do;
    `Equal` of the dual order is symmetric (that it is equality of all three components is the first part
    of `dual_cmp_total_order`) -/
theorem dual_cmp_norm (a b : DH) :
    (FH.cmp a.norm b.norm ≠ .eq → DH.cmp a b = FH.cmp a.norm b.norm) ∧
    (DH.cmp b a = .eq ↔ DH.cmp a b = .eq) := by
  refine ⟨fun h => ?_, OrientedCmp.eq_comm (cmp := compare) (a := b)⟩
  unfold DH.cmp
  cases e : FH.cmp a.norm b.norm with
  | eq => exact absurd e h
  | lt | gt => rfl

/-- **C16 (dual order).** on dual hashes whose normalised parts are valid, `cmp` is a total order:
    `Equal` exactly for identical objects, antisymmetric, transitive — in particular hashes sharing a
    normalised part are totally and deterministically ordered by their RLE blocks (the validity hypotheses are
    not used: the instances above hold of all objects) -/
theorem dual_cmp_total_order (s2 : Nat) (a b c : DH) (ha : FH.Valid s2 true a.norm) (hb : FH.Valid s2 true b.norm)
    (hc : FH.Valid s2 true c.norm) :
    (DH.cmp a b = .eq ↔ a = b) ∧ DH.cmp b a = (DH.cmp a b).swap ∧
    (DH.cmp a b = .lt → DH.cmp b c = .lt → DH.cmp a c = .lt) :=
  ⟨LawfulEqOrd.compare_eq_iff_eq (a := a),
   OrientedOrd.eq_swap (a := b), TransCmp.lt_trans (cmp := compare) (a := a) (b := b) (c := c)⟩

/-- non-vacuity: the trailing-'A' corner — padded arrays equal, the length decides -/
example : lex [1] [1, 0] = .lt ∧ lex [1, 0, 5] [1] = .gt := by decide

end Ffuzzy.C16
