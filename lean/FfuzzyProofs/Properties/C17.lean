/-
  C17 — Reused comparison targets carry nothing over from earlier hashes.
-/
import FfuzzyProofs.PosArrayValid
import FfuzzyProofs.HashValid
import FfuzzyModel.Compare
namespace Ffuzzy.C17

/-- **C17 (position array).** `init_from` does not depend on what the array held before:
    after any history, re-initialising from `a` gives exactly the fresh array of `a`.
    By `rfl`: `init_from` clears the representation and overwrites the length, so it reads no field of `p`. -/
theorem pa_initFrom_history_indep (p : PA) (a : List UInt8) : p.initFrom a = PA.new.initFrom a := rfl

/-- a step of a history of `init_from` / `clear` calls on one array (for `pa_history`) -/
inductive PaOp where | init (a : List UInt8) | clear

def paRun (p : PA) : List PaOp → PA
  | [] => p
  | .init a :: ops => paRun ((p.initFrom a).getD p) ops
  | .clear :: ops => paRun p.clear ops

theorem pa_history (ops : List PaOp) (a : List UInt8) :
    (paRun PA.new ops).initFrom a = PA.new.initFrom a := pa_initFrom_history_indep _ a

/-- **C17.** a position array represents exactly the string it was built from:
    it is valid, its length is the string's, and it is equivalent to that string only -/
theorem posArray_represents (p : PA) (a : List UInt8) (hlen : a.length ≤ 64) (hall : ∀ b ∈ a, b.toNat < 64) :
    ∃ q, p.initFrom a = some q ∧ q.isValid = true ∧ q.len.toNat = a.length ∧
      ∀ x : List UInt8, x.length ≤ 64 → (q.isEquivInternal x = true ↔ x = a) :=
  ⟨_, PosInit.initFrom_eq p a hlen hall, PosInit.initFromPartial_valid a hlen hall, PosInit.initFromPartial_len _ a hlen,
    fun x hx => PosInit.initFromPartial_isEquiv_iff a x hlen hall hx⟩

/-- **C17 (target).** re-initialising a comparison target from `h` gives the fresh target of `h`,
    whatever the target held before: structurally equal, hence the same answers to every query.
    By `rfl`: `init_from` clears both representations, and `init_from_partial` overwrites both lengths and the
    block size, so no field of `t` is read. -/
theorem target_initFrom_history_indep (t : Target) (h : FH) : t.initFrom h = Target.fromHash h := rfl

/-- a step of a history of one target variable: `init_from` on it, or a fresh target assigned to it
    (for `target_history`) -/
inductive TgtOp where | init (h : FH) | from (h : FH)

def tgtRun (t : Target) : List TgtOp → Target
  | [] => t
  | .init h :: ops => tgtRun (t.initFrom h) ops
  | .from h :: ops => tgtRun (Target.fromHash h) ops

theorem target_history (ops : List TgtOp) (h x : FH) :
    let t := (tgtRun Target.new ops).initFrom h
    t = Target.fromHash h ∧ t.fullEq (Target.fromHash h) = true ∧
      t.compare x = (Target.fromHash h).compare x ∧
      t.isComparisonCandidate x = (Target.fromHash h).isComparisonCandidate x := by
  refine ⟨rfl, ?_, rfl, rfl⟩
  show (Target.fromHash h).fullEq (Target.fromHash h) = true
  simp [Target.fullEq]

theorem target_arrays (t : Target) (h : FH) :
    (t.initFrom h).pa1 = PA.new.initFromPartial h.blockHash1 ∧
    (t.initFrom h).pa2 = PA.new.initFromPartial h.blockHash2 := ⟨rfl, rfl⟩

theorem target_isEquivExceptBlockSize_iff (s2 : Nat) (t : Target) (h x : FH) (hs2 : s2 ≤ 64)
    (hv : FH.Valid s2 true h) (hx : FH.Valid s2 true x) :
    (t.initFrom h).isEquivExceptBlockSize x = true ↔ x.blockHash1 = h.blockHash1 ∧ x.blockHash2 = h.blockHash2 := by
  rw [Target.isEquivExceptBlockSize, (target_arrays t h).1, (target_arrays t h).2, Bool.and_eq_true,
    PosInit.initFromPartial_isEquiv_iff _ _ hv.content1.len_le hv.content1.sym hx.content1.len_le,
    PosInit.initFromPartial_isEquiv_iff _ _ (Nat.le_trans hv.content2.len_le hs2) hv.content2.sym (Nat.le_trans hx.content2.len_le hs2)]

/-- a target built from a valid normalised hash reports equivalence to that hash only
    (among valid hashes of the same type) -/
theorem target_isEquiv_iff (s2 : Nat) (t : Target) (h x : FH) (hs2 : s2 ≤ 64)
    (hv : FH.Valid s2 true h) (hx : FH.Valid s2 true x) :
    (t.initFrom h).isEquiv x = true ↔ FH.abs x = FH.abs h := by
  have hlog : (t.initFrom h).log = h.log := rfl
  rw [Target.isEquiv, hlog, FH.abs_eq_abs_iff]
  by_cases hl : h.log = x.log
  · rw [if_neg (by simpa using hl), target_isEquivExceptBlockSize_iff s2 t h x hs2 hv hx, and_iff_right hl.symm]
  · rw [if_pos (by simpa using hl)]
    exact ⟨fun h => absurd h Bool.false_ne_true, fun h => absurd h.1.symm hl⟩

/-- non-vacuity: a reused array really forgets its previous (longer) contents -/
example : ((PA.new.initFrom [1, 1, 2, 3, 4, 5, 6, 7, 8]).bind fun p => p.initFrom [9, 8]) = PA.new.initFrom [9, 8] := by
  decide

end Ffuzzy.C17
