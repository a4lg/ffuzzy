/-
  C10 — score laws and the candidate pre-filter.
  Laws are proved for the specified score `Spec.score` (in `Score.lean`) and transferred to the model's
  `FuzzyHashData::compare` by C02 (`compare_laws`); of `FuzzyHashCompareTarget` only the candidate test is
  spoken of.
-/
import FfuzzyProofs.Properties.C02
import FfuzzyProofs.Windows
namespace Ffuzzy.C10
open Ffuzzy.Spec

theorem candidate_eq_spec (s2 : Nat) (hs2 : s2 ≤ 64) (a b : FH) (ha : FH.Valid s2 true a) :
    (Target.fromHash a).isComparisonCandidate b =
      candSpec a.log.toNat a.blockHash1 a.blockHash2 b.log.toNat b.blockHash1 b.blockHash2 := by
  -- the two arrays of `Target.fromHash a` are by definition those of its block hashes (the `rfl`s below)
  have c1 := fun y => C09.hasCommonSubstring_initFromPartial a.blockHash1 y ha.content1.len_le ha.content1.sym
  have c2 := fun y =>
    C09.hasCommonSubstring_initFromPartial a.blockHash2 y (Nat.le_trans ha.content2.len_le hs2) ha.content2.sym
  unfold Target.isComparisonCandidate
  rw [show (Target.fromHash a).log = a.log from rfl]
  rcases C02.compareSizes_cases a.log b.log with ⟨hk, hr⟩ | ⟨hk, hr⟩ | ⟨hk, hr⟩ | ⟨hk, hr⟩
  · rw [hr, ← hk, candSpec_same, ← c1, ← c2]
    rfl
  · rw [hr, ← hk, candSpec_succ, ← c2]
    rfl
  · rw [hr, hk, candSpec_pred, ← c1]
    rfl
  · rw [hr, candSpec_far _ _ _ _ _ _ hk]

/-- **C10 (model).** all score laws for `compare` on valid normalised hashes -/
theorem compare_laws (s2 : Nat) (hs2 : s2 ≤ 64) (a b : FH) (ha : FH.Valid s2 true a) (hb : FH.Valid s2 true b) :
    FH.compare a b ≤ 100 ∧ FH.compare a b = FH.compare b a ∧ FH.compare a a = 100 ∧
    ((a.log.toNat + 1 < b.log.toNat ∨ b.log.toNat + 1 < a.log.toNat) → FH.compare a b = 0) ∧
    (FH.compare a b ≠ 0 ↔ (FH.eq a b = true ∨ (Target.fromHash a).isComparisonCandidate b = true)) := by
  rw [C02.compare_eq_spec s2 hs2 a b ha hb, C02.compare_eq_spec s2 hs2 b a hb ha, C02.compare_eq_spec s2 hs2 a a ha ha,
    candidate_eq_spec s2 hs2 a b ha]
  unfold C02.specScore
  refine ⟨score_le_100 _ _ _ _ _ _, score_symm _ _ _ _ _ _, score_self _ _ _, score_far _ _ _ _ _ _, ?_⟩
  rw [score_ne_zero_iff]
  rw [C02.eq_iff_spec s2 a b ha hb]

theorem inter_iff_common7 (a b : List UInt8) (ka kb : UInt8) (ha : ∀ x ∈ a, x.toNat < 64) (hb : ∀ x ∈ b, x.toNat < 64)
    (hka : ka.toNat < 32) (hkb : kb.toNat < 32) :
    (∃ x, x ∈ indexWindows a ka ∧ x ∈ indexWindows b kb) ↔ (ka.toNat = kb.toNat ∧ common7 a b = true) := by
  rw [Windows.index_inter_iff a b ka kb ha hb hka hkb, C09.common7_iff, UInt8.toNat_inj]
  rfl

/-- **C10 (windows).** the candidate relation holds exactly when the index-window sets of the two
    hashes (block hash 1 at the block size index, block hash 2 at the index plus one — 31 for the
    largest block size) intersect -/
theorem candidate_iff_windows (ka kb : UInt8) (a1 a2 b1 b2 : List UInt8)
    (h1 : ∀ x ∈ a1, x.toNat < 64) (h2 : ∀ x ∈ a2, x.toNat < 64)
    (h3 : ∀ x ∈ b1, x.toNat < 64) (h4 : ∀ x ∈ b2, x.toNat < 64)
    (hka : ka.toNat < 31) (hkb : kb.toNat < 31) :
    candSpec ka.toNat a1 a2 kb.toNat b1 b2 = true ↔
      ∃ x, x ∈ indexWindows a1 ka ++ indexWindows a2 (ka + 1) ∧ x ∈ indexWindows b1 kb ++ indexWindows b2 (kb + 1) := by
  have hsucc : ∀ k : UInt8, k.toNat < 31 → (k + 1).toNat = k.toNat + 1 := fun k hk => by
    rw [UInt8.toNat_add]
    show (k.toNat + 1) % 256 = _
    omega
  have ea := hsucc ka hka
  have eb := hsucc kb hkb
  have i11 := inter_iff_common7 a1 b1 ka kb h1 h3 (by omega) (by omega)
  have i12 := inter_iff_common7 a1 b2 ka (kb + 1) h1 h4 (by omega) (by omega)
  have i21 := inter_iff_common7 a2 b1 (ka + 1) kb h2 h3 (by omega) (by omega)
  have i22 := inter_iff_common7 a2 b2 (ka + 1) (kb + 1) h2 h4 (by omega) (by omega)
  rw [ea] at i21 i22
  rw [eb] at i12 i22
  rw [candSpec_iff, ← i11, ← i21, ← i12, ← i22]
  simp only [List.mem_append, or_and_right, and_or_left, exists_or, or_assoc]

end Ffuzzy.C10
