/-
  C11 — no safe operation ever yields an invalid hash object.
  The operations are the typed `SOp` of `FfuzzyModel/Ops.lean` (the interpreter the `ops`
  correspondence family runs against the real crate); the invariant says that every object in the
  store is valid — dual objects even canonical — after every sequence of operations.
-/
import FfuzzyModel.Ops
import FfuzzyProofs.Decl.Digest
import FfuzzyProofs.Properties.C01
import FfuzzyProofs.PosArrayValid
import FfuzzyProofs.Properties.C04
import FfuzzyProofs.Properties.C07
import FfuzzyProofs.Properties.C15
import FfuzzyProofs.Properties.C17
namespace Ffuzzy
open Ffuzzy.Spec

/-- every digest of the reference engine is a valid raw hash, in every output form -/
theorem naiveDigest_valid (bs : List UInt8) (trunc : Bool) (s2 : Nat) (hs2 : s2 = 32 ∨ s2 = 64) (d : Digest)
    (h : naiveDigest bs trunc s2 = .ok d) : FH.Valid s2 false (d.toFH s2) := by
  obtain ⟨-, hk, e1, e2⟩ := GenSim.naiveDigest_eq_ok h
  have hN := GenSim.ninv_feed bs
  have hS := fun k hk => (Decl.linv_feed bs k hk).symok
  obtain ⟨l1, y1⟩ := GenSim.digest1_ok _ (hN.wf d.log (by omega)) (hS _ (by omega)) ((Naive.feed bs).roll.value != 0)
  obtain ⟨l2, y2⟩ := GenSim.digest2_ok _ (hN.wf (d.log + 1) (by omega)) (hS _ (by omega)) _ trunc s2 hs2 _ e2
  rw [← e1] at l1 y1
  -- `Digest.toFH` is the object that holds the two digests
  have hlog : d.log.toUInt8 < 31 :=
    show d.log.toUInt8.toNat < 31 from (toNat_toUInt8 d.log (by omega)).symm ▸ Nat.lt_succ_of_le hk
  exact FH.valid_ofContent (by omega) hlog ⟨l1, y1, nofun⟩ ⟨l2, y2, nofun⟩

/-- **generator results are valid raw hashes**, in every output form -/
theorem gen_valid (bs : List UInt8) (trunc : Bool) (s2 : Nat) (hs2 : s2 = 32 ∨ s2 = 64) (d : Digest)
    (h : (Gen.new.update bs).finalizeRaw trunc s2 = .ok d) : FH.Valid s2 false (d.toFH s2) :=
  naiveDigest_valid bs trunc s2 hs2 d (C01.generator_eq_reference bs trunc s2 hs2 ▸ h)

end Ffuzzy

namespace Ffuzzy.C11
open Ffuzzy.Spec Ffuzzy.Collapse

theorem normalize_valid_norm (s2 : Nat) (hs2 : s2 ≤ 64) (n : FH) (hv : FH.Valid s2 true n) : FH.normalize false n = n :=
  C06.normalize_of_collapsed s2 hs2 n hv.toRaw (hv.b1.norm rfl) (hv.b2.norm rfl)

/-- the near-raw constructor returns `some` only past all its `assert!`s, and then the object that
    holds the given content -/
theorem newNearRaw_some {s2 : Nat} {norm : Bool} {log : UInt8} {b1 b2 : List UInt8} {h : FH}
    (hn : FH.newFromInternalsNearRaw s2 norm log b1 b2 = some h) :
    log < 31 ∧ b1.length ≤ FULL_SIZE ∧ b2.length ≤ s2 ∧
      verifyBlockHashInput (padTo b1 FULL_SIZE 0) b1.length.toUInt8 norm true false = true ∧
      verifyBlockHashInput (padTo b2 s2 0) b2.length.toUInt8 norm true false = true ∧ h = FH.ofContent s2 log b1 b2 := by
  have e : FH.newFromInternalsNearRawInternal s2 log b1 b2 = FH.ofContent s2 log b1 b2 := by
    rw [FH.ofContent, ← setSlice_replicate b1, ← setSlice_replicate b2]; rfl
  simp only [FH.newFromInternalsNearRaw, Option.ite_none_left_eq_some, Bool.not_eq_true', Bool.not_eq_false,
    decide_eq_false_iff_not, Decidable.not_not, Option.some.injEq, BlockSize.isLogValid_iff, e] at hn
  obtain ⟨hlog, hl1, hl2, hv1, hv2, rfl⟩ := hn
  exact ⟨hlog, hl1, hl2, hv1, hv2, rfl⟩

/-- the range / normalisation scan of a zero padded array gives `BhValid`; the tail needs no check -/
theorem bhValid_of_scan (cap : Nat) (norm : Bool) (b : List UInt8) (hb : b.length ≤ cap) (hc : cap ≤ 255)
    (hvf : verifyBlockHashInput (padTo b cap 0) b.length.toUInt8 norm true false = true) :
    FH.BhValid cap norm (padTo b cap 0) b.length.toUInt8 := by
  rw [verifyBlockHashInput, verifyBlockHash_iff _ _ true false norm nofun, toNat_toUInt8 b.length (by omega),
    take_padTo] at hvf
  exact FH.Content.bhValid ⟨hb, hvf.1 rfl, hvf.2.1⟩ hc

/-- the near-raw constructor: `None` (an `assert!` fails) or a valid object -/
theorem newNearRaw_valid (s2 : Nat) (norm : Bool) (hs2 : s2 ≤ 64) (log : UInt8) (b1 b2 : List UInt8) (h : FH)
    (hn : FH.newFromInternalsNearRaw s2 norm log b1 b2 = some h) : FH.Valid s2 norm h := by
  obtain ⟨hlog, hl1, hl2, hv1, hv2, rfl⟩ := newNearRaw_some hn
  exact ⟨hlog, bhValid_of_scan FULL_SIZE norm b1 hl1 (by decide) hv1, bhValid_of_scan s2 norm b2 hl2 (by omega) hv2⟩

theorem newFromInternals_valid (s2 : Nat) (norm : Bool) (hs2 : s2 ≤ 64) (bsz : UInt32) (b1 b2 : List UInt8) (h : FH)
    (hn : FH.newFromInternals s2 norm bsz b1 b2 = some h) : FH.Valid s2 norm h := by
  rw [FH.newFromInternals, Option.ite_none_left_eq_some] at hn
  exact newNearRaw_valid s2 norm hs2 _ b1 b2 h hn.2

/-- `init_from_internals_raw`: `None` or a valid object, whatever the destination held -/
theorem init_valid (s2 : Nat) (norm : Bool) (self : FH) (log : UInt8) (a1 a2 : List UInt8) (l1 l2 : UInt8) (h : FH)
    (ha1 : a1.length = FULL_SIZE) (ha2 : a2.length = s2)
    (hn : FH.initFromInternalsRaw s2 norm self log a1 a2 l1 l2 = some h) : FH.Valid s2 norm h := by
  simp only [FH.initFromInternalsRaw, Option.ite_none_left_eq_some, Bool.not_eq_true', Bool.not_eq_false,
    decide_eq_false_iff_not, Decidable.not_not, Option.some.injEq, BlockSize.isLogValid_iff] at hn
  obtain ⟨hlog, hl1, hl2, hv1, hv2, rfl⟩ := hn
  exact ⟨hlog, (FH.bhValid_iff ha1).mpr ⟨hl1, hv1⟩, (FH.bhValid_iff ha2).mpr ⟨hl2, hv2⟩⟩

/-- a dual object is canonical: the dual hash of some valid raw hash -/
def Canon (s2 : Nat) (d : DH) : Prop := ∃ h, FH.Valid s2 false h ∧ d = C07.dualOf s2 h

theorem canon_of_raw (s2 : Nat) (h : FH) (hv : FH.Valid s2 false h) : Canon s2 (C07.dualOf s2 h) := ⟨h, hv, rfl⟩

/-- the dual near-raw constructor: `None` or the canonical dual hash of the given content -/
theorem newDualNearRaw_canon (s2 : Nat) (hs2 : s2 = 32 ∨ s2 = 64) (log : UInt8) (b1 b2 : List UInt8) (d : DH)
    (hn : DH.newFromInternalsNearRaw s2 log b1 b2 = some d) : Canon s2 d := by
  simp only [DH.newFromInternalsNearRaw, Option.ite_none_left_eq_some, Bool.not_eq_true', Bool.not_eq_false,
    decide_eq_false_iff_not, Decidable.not_not, BlockSize.isLogValid_iff, List.all_eq_true, decide_eq_true_eq] at hn
  obtain ⟨hlog, hl1, hl2, s1, s2', hn⟩ := hn
  have hle := (C07.c2_le hs2).1
  have hv : FH.Valid s2 false (FH.ofContent s2 log b1 b2) :=
    FH.valid_ofContent (by omega) hlog ⟨hl1, s1, nofun⟩ ⟨hl2, s2', nofun⟩
  -- past its `assert!`s the constructor is `from_raw_form` of the object that holds the content
  have e : DH.newFromInternalsNearRawInternal s2 log b1 b2 = DH.fromRawForm s2 (FH.ofContent s2 log b1 b2) := by
    rw [DH.fromRawForm, DH.initFromRawForm, FH.blockHash1_ofContent s2 log b2 (Nat.le_trans hl1 (by decide)),
      FH.blockHash2_ofContent s2 log b1 (by omega)]
    rfl
  rw [e, (C07.fromRawForm_eq s2 hs2 _ hv).1] at hn
  exact ⟨_, hv, (Option.some.inj hn).symm⟩

theorem newDual_canon (s2 : Nat) (hs2 : s2 = 32 ∨ s2 = 64) (bsz : UInt32) (b1 b2 : List UInt8) (d : DH)
    (hn : DH.newFromInternals s2 bsz b1 b2 = some d) : Canon s2 d := by
  rw [DH.newFromInternals, Option.ite_none_left_eq_some] at hn
  exact newDualNearRaw_canon s2 hs2 _ b1 b2 d hn.2

theorem new_valid (s2 : Nat) (norm : Bool) (hs2 : s2 = 32 ∨ s2 = 64) : FH.Valid s2 norm (FH.new s2) :=
  FH.valid_ofContent (x := []) (y := []) (by have := (C07.c2_le hs2).1; omega) (by decide)
    ⟨Nat.zero_le _, nofun, fun _ => rfl⟩ ⟨Nat.zero_le _, nofun, fun _ => rfl⟩

theorem fromNormalized_canon (s2 : Nat) (hs2 : s2 = 32 ∨ s2 = 64) (n : FH) (hv : FH.Valid s2 true n) :
    Canon s2 (DH.fromNormalized s2 n) := by
  have := (C07.dual_normalize s2 hs2 n hv.toRaw).2
  rw [normalize_valid_norm s2 (C07.c2_le hs2).1 n hv] at this
  rw [this]
  exact canon_of_raw s2 n hv.toRaw

theorem new_canon (s2 : Nat) (hs2 : s2 = 32 ∨ s2 = 64) : Canon s2 (DH.new s2) :=
  fromNormalized_canon s2 hs2 (FH.new s2) (new_valid s2 true hs2)

/-- a comparison target initialised from a valid normalised hash is valid, whatever it held before;
    `Target.fromHash n` is the case `t = Target.new` -/
theorem target_valid (s2 : Nat) (hs2 : s2 ≤ 64) (t : Target) (n : FH) (hv : FH.Valid s2 true n) :
    (t.initFrom n).isValid = true := by
  have tarr := C17.target_arrays t n
  obtain ⟨l1, y1, _⟩ := hv.content1
  obtain ⟨l2, y2, _⟩ := hv.content2
  have pav : ∀ (a : List UInt8), a.length ≤ 64 → (∀ b ∈ a, b.toNat < 64) → collapse a = a →
      (PA.new.initFromPartial a).isValidAndNormalized = true :=
    fun a hl hs hc => (PosInit.initFromPartial_normalized_iff a hl hs).mpr (collapse_noRun4 a hc)
  have v1 := pav n.blockHash1 l1 y1 (hv.b1.norm rfl)
  have v2 := pav n.blockHash2 (Nat.le_trans l2 hs2) y2 (hv.b2.norm rfl)
  have hlog : (t.initFrom n).log = n.log := rfl
  unfold Target.isValid
  rw [tarr.1, tarr.2, v1, v2, hlog, (BlockSize.isLogValid_iff n.log).mpr hv.log]
  rfl

theorem pa_valid (p q : PA) (bs : List UInt8) (h : p.initFrom bs = some q) : q.isValid = true := by
  have hcond : bs.length ≤ 64 ∧ ∀ b ∈ bs, b < 64 := by
    simp only [PA.initFrom, Option.ite_none_left_eq_some, Bool.not_eq_true', Bool.not_eq_false, decide_eq_false_iff_not,
      Decidable.not_not, List.all_eq_true, decide_eq_true_eq] at h
    exact ⟨h.1, h.2.1⟩
  rw [PosInit.initFrom_eq p bs hcond.1 hcond.2] at h
  rw [← Option.some.inj h]
  exact PosInit.initFromPartial_valid bs hcond.1 hcond.2

theorem pa_clear_valid (p : PA) : (p.clear).isValid = true := by
  unfold PA.clear; decide +kernel

theorem pa_new_valid : PA.new.isValid = true := by decide +kernel

theorem target_new_valid : Target.new.isValid = true := by decide +kernel

/-- the eight slots of the store: the raw / long raw / normalised / long normalised hash, the dual /
    long dual hash (canonical, hence valid: `sinv_checks`), the comparison target, the position array -/
structure SInv (st : Store) : Prop where
  r : FH.Valid 32 false st.r
  lr : FH.Valid 64 false st.lr
  n : FH.Valid 32 true st.n
  ln : FH.Valid 64 true st.ln
  d : Canon 32 st.d
  ld : Canon 64 st.ld
  t : st.t.isValid = true
  p : st.p.isValid = true

theorem sinv_init : SInv {} :=
  ⟨new_valid 32 false (Or.inl rfl), new_valid 64 false (Or.inr rfl), new_valid 32 true (Or.inl rfl),
   new_valid 64 true (Or.inr rfl), new_canon 32 (Or.inl rfl), new_canon 64 (Or.inr rfl), target_new_valid, pa_new_valid⟩

theorem slot_valid (st : Store) (hs : SInv st) (t : Slot) : FH.Valid t.s2 t.norm (st.get t) := by
  cases t
  · exact hs.r
  · exact hs.lr
  · exact hs.n
  · exact hs.ln

theorem slot_s2 (t : Slot) : t.s2 = 32 ∨ t.s2 = 64 := by cases t <;> simp [Slot.s2]

theorem slot_le (t : Slot) : t.s2 ≤ 64 := (C07.c2_le (slot_s2 t)).1

theorem set_inv (st : Store) (hs : SInv st) (t : Slot) (h : FH) (hv : FH.Valid t.s2 t.norm h) : SInv (st.set t h) := by
  cases t
  · exact { hs with r := hv }
  · exact { hs with lr := hv }
  · exact { hs with n := hv }
  · exact { hs with ln := hv }

theorem getD_canon (st : Store) (hs : SInv st) (long : Bool) : Canon (dualS2 long) (st.getD long) := by
  cases long
  · exact hs.d
  · exact hs.ld

theorem setD_inv (st : Store) (hs : SInv st) (long : Bool) (d : DH) (hc : Canon (dualS2 long) d) : SInv (st.setD long d) := by
  cases long
  · exact { hs with d := hc }
  · exact { hs with ld := hc }

theorem dualS2_cases (long : Bool) : dualS2 long = 32 ∨ dualS2 long = 64 := by cases long <;> simp [dualS2]

theorem canon_norm_valid (s2 : Nat) (hs2 : s2 = 32 ∨ s2 = 64) (d : DH) (hc : Canon s2 d) : FH.Valid s2 true d.norm := by
  obtain ⟨h, hv, rfl⟩ := hc
  exact (C06.normalize_eq_collapse s2 (C07.c2_le hs2).1 h hv).1

theorem canon_lengths (s2 : Nat) (hs2 : s2 = 32 ∨ s2 = 64) (d : DH) (hc : Canon s2 d) :
    d.norm.bh1.length = FULL_SIZE ∧ d.norm.bh2.length = s2 ∧ d.rle1.length = DH.c1 ∧ d.rle2.length = DH.c2 s2 := by
  have hvn := canon_norm_valid s2 hs2 d hc
  obtain ⟨h, hv, rfl⟩ := hc
  exact ⟨hvn.b1.arr, hvn.b2.arr, C07.rleOf_length _ _ (sym_ne_invalid hv.content1.sym) hv.content1.len_le,
    C07.rleOf_length _ _ (sym_ne_invalid hv.content2.sym) (Nat.le_trans hv.content2.len_le (C07.c2_le hs2).2)⟩

theorem initFromRaw_canon (s2 : Nat) (hs2 : s2 = 32 ∨ s2 = 64) (h : FH) (hv : FH.Valid s2 false h) (self : DH)
    (hc : Canon s2 self) : DH.initFromRawForm self h = some (C07.dualOf s2 h) := by
  obtain ⟨d1, d2, d3, d4⟩ := canon_lengths s2 hs2 self hc
  exact (C07.dual_roundtrip s2 hs2 h hv self d1 d2 d3 d4 h hv.b1.arr hv.b2.arr).1

theorem intoRaw_valid (s2 : Nat) (hs2 : s2 = 32 ∨ s2 = 64) (d : DH) (hc : Canon s2 d) (dest : FH)
    (hd : FH.Valid s2 false dest) : FH.Valid s2 false (DH.intoMutRawForm d dest) := by
  obtain ⟨d1, d2, d3, d4⟩ := canon_lengths s2 hs2 _ (new_canon s2 hs2)
  obtain ⟨h, hv, rfl⟩ := hc
  rw [(C07.dual_roundtrip s2 hs2 h hv (DH.new s2) d1 d2 d3 d4 dest hd.b1.arr hd.b2.arr).2.2]
  exact hv

/-- **every conversion edge preserves the invariant** -/
theorem cv_inv (st : Store) (hs : SInv st) (c : Cv) : SInv (applyCv st c).1 := by
  have s32 : (32 : Nat) = 32 ∨ (32 : Nat) = 64 := Or.inl rfl
  have s64 : (64 : Nat) = 32 ∨ (64 : Nat) = 64 := Or.inr rfl
  have l32 : (32 : Nat) ≤ 64 := by decide
  have l64 : (64 : Nat) ≤ 64 := by decide
  -- the destination of an in-place widening does not matter
  have long : ∀ (norm : Bool) (h dest : FH), FH.Valid 32 norm h → FH.Valid 64 norm dest →
      FH.Valid 64 norm (FH.intoMutLongForm h dest) := fun norm h dest hv hd => by
    rw [(C15.dest_independent h dest hd.b2.arr hv.b2.arr).1]; exact (C15.toLongForm_spec norm h hv).1
  cases c with
  | R_N => exact set_inv st hs .N _ (C06.normalize_eq_collapse 32 l32 _ hs.r).1
  | LR_LN => exact set_inv st hs .LN _ (C06.normalize_eq_collapse 64 l64 _ hs.lr).1
  | N_R | N_R_mut => exact set_inv st hs .R _ hs.n.toRaw
  | LN_LR | LN_LR_mut => exact set_inv st hs .LR _ hs.ln.toRaw
  | R_LR => exact set_inv st hs .LR _ (C15.toLongForm_spec false _ hs.r).1
  | R_LR_mut => exact set_inv st hs .LR _ (long false st.r st.lr hs.r hs.lr)
  | N_LN => exact set_inv st hs .LN _ (C15.toLongForm_spec true _ hs.n).1
  | N_LN_mut => exact set_inv st hs .LN _ (long true st.n st.ln hs.n hs.ln)
  | N_LR =>
    have : FH.Valid 64 false (FH.shortNormToLongRaw st.n) := by
      rw [(C15.dest_independent st.n st.lr hs.lr.b2.arr hs.n.b2.arr).2.2]
      exact (C15.toLongForm_spec true _ hs.n).1.toRaw
    exact set_inv st hs .LR _ this
  | LR_R | LR_R_mut =>
    rw [applyCv]
    split
    · next h hc => exact set_inv st hs .R _ ((C15.tryIntoMutShort_spec false st.lr _ hs.lr).2 h hc).1
    · exact hs
  | LN_N | LN_N_mut =>
    rw [applyCv]
    split
    · next h hc => exact set_inv st hs .N _ ((C15.tryIntoMutShort_spec true st.ln _ hs.ln).2 h hc).1
    · exact hs
  | R_D =>
    rw [applyCv]
    rw [DH.fromRawForm, initFromRaw_canon 32 s32 st.r hs.r _ (new_canon 32 s32)]
    exact setD_inv st hs false _ (canon_of_raw 32 _ hs.r)
  | R_D_mut =>
    rw [applyCv]
    rw [initFromRaw_canon 32 s32 st.r hs.r _ hs.d]
    exact setD_inv st hs false _ (canon_of_raw 32 _ hs.r)
  | LR_LD =>
    rw [applyCv]
    rw [DH.fromRawForm, initFromRaw_canon 64 s64 st.lr hs.lr _ (new_canon 64 s64)]
    exact setD_inv st hs true _ (canon_of_raw 64 _ hs.lr)
  | LR_LD_mut =>
    rw [applyCv]
    rw [initFromRaw_canon 64 s64 st.lr hs.lr _ hs.ld]
    exact setD_inv st hs true _ (canon_of_raw 64 _ hs.lr)
  | N_D => exact setD_inv st hs false _ (fromNormalized_canon 32 s32 st.n hs.n)
  | LN_LD => exact setD_inv st hs true _ (fromNormalized_canon 64 s64 st.ln hs.ln)
  | D_R => exact set_inv st hs .R _ (intoRaw_valid 32 s32 st.d hs.d _ (new_valid 32 false s32))
  | D_R_mut => exact set_inv st hs .R _ (intoRaw_valid 32 s32 st.d hs.d st.r hs.r)
  | LD_LR => exact set_inv st hs .LR _ (intoRaw_valid 64 s64 st.ld hs.ld _ (new_valid 64 false s64))
  | LD_LR_mut => exact set_inv st hs .LR _ (intoRaw_valid 64 s64 st.ld hs.ld st.lr hs.lr)
  | D_N => exact set_inv st hs .N _ (canon_norm_valid 32 s32 st.d hs.d)
  | LD_LN => exact set_inv st hs .LN _ (canon_norm_valid 64 s64 st.ld hs.ld)

theorem tsrc_valid (st : Store) (hs : SInv st) (src : TSrc) : ∃ s2, s2 ≤ 64 ∧ FH.Valid s2 true (st.tsrc src) := by
  cases src
  · exact ⟨32, by decide, hs.n⟩
  · exact ⟨64, by decide, hs.ln⟩
  · exact ⟨32, by decide, canon_norm_valid 32 (Or.inl rfl) st.d hs.d⟩
  · exact ⟨64, by decide, canon_norm_valid 64 (Or.inr rfl) st.ld hs.ld⟩

/-- **C11 (one operation).** after every safe operation, whatever its outcome (a result, a refusal, a
    panic), every object of the store is valid (dual objects canonical) -/
theorem op_inv (cfg : Cfg) (st : Store) (hs : SInv st) (op : SOp) : SInv (applyOp cfg st op).1 := by
  cases op with
  | gen long bs =>
    rw [applyOp]
    cases long with
    | true =>
      simp only [if_true]
      cases hf : (Gen.new.update bs).finalizeWithoutTruncation with
      | error e => exact hs
      | ok d => exact set_inv st hs .LR _ (gen_valid bs false 64 (Or.inr rfl) d hf)
    | false =>
      simp only [Bool.false_eq_true, if_false]
      cases hf : (Gen.new.update bs).finalize with
      | error e => exact hs
      | ok d => exact set_inv st hs .R _ (gen_valid bs true 32 (Or.inl rfl) d hf)
  | parseFH t bs =>
    rw [applyOp]
    cases hp : FH.parse cfg t.s2 t.norm bs with
    | error e => exact hs
    | ok r => exact set_inv st hs t r.1 ((C04.parse_ok_iff cfg t.s2 t.norm bs (slot_le t) r.1 r.2).mp hp).1
  | parseDH long bs =>
    rw [applyOp]
    have hs2 := dualS2_cases long
    have hex := C07.dual_parse_exact cfg (dualS2 long) hs2 bs
    cases hr : refParse cfg (dualS2 long) true true bs with
    | error o =>
      obtain ⟨e, he, _⟩ := hex.1 o hr
      rw [he]; exact hs
    | ok ro =>
      obtain ⟨r1, r3, _, _, hv, hp⟩ := hex.2 ro hr
      rw [hp]
      exact setD_inv st hs long _ (canon_of_raw _ _ hv)
  | newFH t k b1 b2 =>
    rw [applyOp]
    have hle := slot_le t
    cases hn : FH.newFromInternalsNearRaw t.s2 t.norm k.toUInt8 b1 b2 with
    | none => exact hs
    | some h => exact set_inv st hs t h (newNearRaw_valid t.s2 t.norm hle _ b1 b2 h hn)
  | newDH long k b1 b2 =>
    rw [applyOp]
    cases hn : DH.newFromInternalsNearRaw (dualS2 long) k.toUInt8 b1 b2 with
    | none => exact hs
    | some d => exact setD_inv st hs long d (newDualNearRaw_canon _ (dualS2_cases long) _ b1 b2 d hn)
  | newbsFH t bsz b1 b2 =>
    rw [applyOp]
    have hle := slot_le t
    cases hn : FH.newFromInternals t.s2 t.norm bsz.toUInt32 b1 b2 with
    | none => exact hs
    | some h => exact set_inv st hs t h (newFromInternals_valid t.s2 t.norm hle _ b1 b2 h hn)
  | newbsDH long bsz b1 b2 =>
    rw [applyOp]
    cases hn : DH.newFromInternals (dualS2 long) bsz.toUInt32 b1 b2 with
    | none => exact hs
    | some d => exact setD_inv st hs long d (newDual_canon _ (dualS2_cases long) _ b1 b2 d hn)
  | init t k a1 a2 l1 l2 =>
    rw [applyOp]
    by_cases hbad : (a1.length != 64 || a2.length != t.s2) = true
    · rw [if_pos hbad]; exact hs
    · rw [if_neg hbad]
      simp only [Bool.or_eq_true, bne_iff_ne, ne_eq, not_or, Decidable.not_not] at hbad
      cases hn : FH.initFromInternalsRaw t.s2 t.norm (st.get t) k.toUInt8 a1 a2 l1.toUInt8 l2.toUInt8 with
      | none => exact hs
      | some h => exact set_inv st hs t h (init_valid t.s2 t.norm _ _ a1 a2 _ _ h hbad.1 hbad.2 hn)
  | normFH t =>
    rw [applyOp]
    apply set_inv st hs t
    have hv := slot_valid st hs t
    have hle := slot_le t
    cases t with
    | R => exact (C06.normalize_eq_collapse 32 hle _ hv).1.toRaw
    | LR => exact (C06.normalize_eq_collapse 64 hle _ hv).1.toRaw
    | N => exact (C06.normalize_norm_id st.n).symm ▸ hv
    | LN => exact (C06.normalize_norm_id st.ln).symm ▸ hv
  | normDH long =>
    rw [applyOp]
    apply setD_inv st hs long
    obtain ⟨h, hv, hd⟩ := getD_canon st hs long
    have hs2 := dualS2_cases long
    have hle := (C07.c2_le hs2).1
    rw [hd, (C07.dual_normalize _ hs2 h hv).1]
    exact canon_of_raw _ _ (C06.normalize_eq_collapse _ hle h hv).1.toRaw
  | cv c => exact cv_inv st hs c
  | tgt src =>
    obtain ⟨s2, hle, hv⟩ := tsrc_valid st hs src
    exact { hs with t := target_valid s2 hle st.t _ hv }
  | tgtnew src =>
    obtain ⟨s2, hle, hv⟩ := tsrc_valid st hs src
    exact { hs with t := target_valid s2 hle Target.new _ hv }
  | pa bs =>
    rw [applyOp]
    cases hp : st.p.initFrom bs with
    | none => exact hs
    | some q => exact { hs with p := pa_valid st.p q bs hp }
  | pac => exact { hs with p := pa_clear_valid st.p }

/-- **C11.** after any finite sequence of safe operations, starting from freshly created objects,
    every object of the store passes its validity check -/
theorem ops_inv (cfg : Cfg) (ops : List SOp) : SInv (ops.foldl (fun st op => (applyOp cfg st op).1) {}) := by
  have : ∀ (ops : List SOp) (st : Store), SInv st → SInv (ops.foldl (fun st op => (applyOp cfg st op).1) st) := by
    intro ops
    induction ops with
    | nil => intro st h; exact h
    | cons op ops ih => intro st h; exact ih _ (op_inv cfg st h op)
  exact this ops {} sinv_init

/-- the invariant in terms of the implementation's own validity checks -/
theorem sinv_checks (st : Store) (hs : SInv st) :
    FH.isValid 32 false st.r = true ∧ FH.isValid 64 false st.lr = true ∧ FH.isValid 32 true st.n = true ∧
    FH.isValid 64 true st.ln = true ∧ DH.isValid 32 st.d = true ∧ DH.isValid 64 st.ld = true ∧
    st.t.isValid = true ∧ st.p.isValid = true := by
  obtain ⟨h1, hv1, hd1⟩ := hs.d
  obtain ⟨h2, hv2, hd2⟩ := hs.ld
  exact ⟨hs.r.isValid, hs.lr.isValid, hs.n.isValid, hs.ln.isValid,
    hd1 ▸ C07.dual_valid 32 (Or.inl rfl) h1 hv1, hd2 ▸ C07.dual_valid 64 (Or.inr rfl) h2 hv2, hs.t, hs.p⟩

end Ffuzzy.C11
