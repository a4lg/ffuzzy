/-
  C18 — Stream and file hashing fail closed under I/O faults (over read scripts).
-/
import FfuzzyModel.Stream
import FfuzzyProofs.GenBasic
namespace Ffuzzy.C18

/-- the chunks a fault-free scripted reader delivers before its first empty read -/
def chunks (data : List UInt8) (sizes : List Nat) : Nat → List (List UInt8)
  | 0 => []
  | fuel + 1 =>
    let chunk := data.take (wantOf sizes)
    if chunk.isEmpty then [] else chunk :: chunks (data.drop chunk.length) (sizes.drop 1) fuel

theorem hashStreamLoop_none (fuel : Nat) : ∀ (g : Gen) (data : List UInt8) (sizes : List Nat) (callNo : Nat),
    hashStreamLoop g data sizes none callNo fuel = .ok ((chunks data sizes fuel).foldl Gen.update g) := by
  induction fuel with
  | zero => intros; rfl
  | succ fuel ih =>
    intro g data sizes callNo
    rw [hashStreamLoop, chunks, if_neg (by simp)]
    simp only
    split
    · rfl
    · rw [ih]; rfl

/-- **C18 (read loop).** the loop either returns the scripted I/O error — exactly when the failing
    `read` call is reached, i.e. its index is at most the number of chunks delivered before the first
    empty read — or the generator updated with exactly the delivered chunks, in order -/
theorem hashStreamLoop_spec (i k fuel : Nat) : ∀ (g : Gen) (data : List UInt8) (sizes : List Nat) (callNo : Nat),
    hashStreamLoop g data sizes (some (i, k)) callNo fuel =
      if callNo ≤ i ∧ i < callNo + fuel ∧ i ≤ callNo + (chunks data sizes fuel).length then .error (.io k)
      else .ok ((chunks data sizes fuel).foldl Gen.update g) := by
  induction fuel with
  | zero => intros; exact (if_neg fun h => Nat.not_lt_of_le h.1 h.2.1).symm
  | succ fuel ih =>
    intro g data sizes callNo
    rw [hashStreamLoop, chunks]
    by_cases hc : i = callNo
    · rw [if_pos (by simp [hc]), if_pos ⟨Nat.le_of_eq hc.symm, by omega, by omega⟩]
      rfl
    · rw [if_neg (by simpa using hc)]
      simp only
      split
      -- the stream ended before the failing call
      · exact (if_neg fun h => hc (Nat.le_antisymm h.2.2 h.1)).symm
      · rw [ih, List.length_cons, List.foldl_cons]
        exact ite_congr (by simp only [eq_iff_iff]; omega) (fun _ => rfl) (fun _ => rfl)

theorem chunks_length_le (fuel : Nat) : ∀ (d : List UInt8) (s : List Nat), (chunks d s fuel).length ≤ d.length := by
  induction fuel with
  | zero => exact fun d s => Nat.zero_le _
  | succ f ih =>
    intro d s
    rw [chunks]
    split
    · exact Nat.zero_le _
    · next he =>
      -- a non-empty chunk is taken off the data
      have := ih (d.drop (d.take (wantOf s)).length) (s.drop 1)
      have hpos : (d.take (wantOf s)).length ≠ 0 := fun e => he (by rw [List.length_eq_zero_iff.mp e]; rfl)
      have hle := List.length_take_le' (wantOf s) d
      rw [List.length_drop] at this
      rw [List.length_cons]
      omega

/-- **C18.** `hash_stream` under any script: an error at a reached read index is returned as that
    I/O error and **no hash is produced**; otherwise the result is the finalisation of the generator
    fed with the delivered chunks (any pattern of short reads) -/
theorem hashStream_script (data : List UInt8) (sizes : List Nat) (failAt : Option (Nat × Nat)) :
    let cs := chunks data sizes (data.length + sizes.length + 2)
    hashStream data sizes failAt =
      match failAt with
      | some (i, k) =>
        if i ≤ cs.length then .error (.io k)
        else (match (cs.foldl Gen.update Gen.new).finalize with | .error e => .error (.gen e) | .ok d => .ok d)
      | none => (match (cs.foldl Gen.update Gen.new).finalize with | .error e => .error (.gen e) | .ok d => .ok d) := by
  intro cs
  unfold hashStream hashStreamCommon
  rcases failAt with _ | ⟨i, k⟩
  · rw [hashStreamLoop_none]
    rfl
  · have hlen : cs.length ≤ data.length := chunks_length_le _ data sizes
    rw [hashStreamLoop_spec]
    simp only [Nat.zero_le, Nat.zero_add, true_and]
    by_cases hi : i ≤ cs.length
    · rw [if_pos ⟨by omega, hi⟩, if_pos hi]
    · rw [if_neg fun h => hi h.2, if_neg hi]
      rfl

theorem foldl_update_size (l : List (List UInt8)) (g : Gen) (hg : g.inputSize ≤ U64_MAX) :
    (l.foldl Gen.update g).inputSize = Gen.satAdd g.inputSize l.flatten.length ∧
    (l.foldl Gen.update g).fixedSize = g.fixedSize :=
  ⟨(Gen.foldl_update_inputSize l g hg).1, (Gen.foldl_update_inputSize l g hg).2.1⟩

theorem hashStreamCommon_ok (g : Gen) (data : List UInt8) (sizes : List Nat) (failAt : Option (Nat × Nat))
    (d : Digest) (h : hashStreamCommon g data sizes failAt = .ok d) :
    ((chunks data sizes (data.length + sizes.length + 2)).foldl Gen.update g).finalize = .ok d := by
  unfold hashStreamCommon at h
  split at h
  · cases h
  · next g' hg =>
    have e : g' = (chunks data sizes (data.length + sizes.length + 2)).foldl Gen.update g := by
      rcases failAt with _ | ⟨i, k⟩
      · rw [hashStreamLoop_none] at hg
        exact (Except.ok.inj hg).symm
      · rw [hashStreamLoop_spec] at hg
        split at hg
        · cases hg
        · exact (Except.ok.inj hg).symm
    rw [← e]
    split at h
    · cases h
    · next d' hf => rw [hf, Except.ok.inj h]

/-- the generator `hash_file` starts from: a new generator with the metadata size declared -/
def hinted (metaLen : Nat) : Gen :=
  { Gen.new with fixedSize := some metaLen, bhEndLimit := min 30 (Gen.logBlockSizeFromInputSize metaLen 0 + 1) }

/-- **C18 (files).** with the size reported by the metadata declared up front: a metadata size above
    the limit is refused at once, and a hash is only ever produced when the delivered byte count equals
    the declared size — otherwise the result is an error, never a hash -/
theorem hashFile_script (metaLen : Nat) (data : List UInt8) (sizes : List Nat) (failAt : Option (Nat × Nat)) :
    (metaLen > Gen.MAX_INPUT_SIZE → hashFile metaLen data sizes failAt = .error (.gen .fixedSizeTooLarge)) ∧
    (∀ d, hashFile metaLen data sizes failAt = .ok d →
       (chunks data sizes (data.length + sizes.length + 2)).flatten.length = metaLen) := by
  refine ⟨fun h => by simp [hashFile, Gen.setFixedInputSize, h], fun d hd => ?_⟩
  have hm : ¬ metaLen > Gen.MAX_INPUT_SIZE := fun hm => by simp [hashFile, Gen.setFixedInputSize, hm] at hd
  have hset : Gen.new.setFixedInputSize metaLen = .ok (hinted metaLen) :=
    Gen.setFixedInputSize_new metaLen (Nat.le_of_not_lt hm)
  unfold hashFile at hd
  rw [hset] at hd
  have hfinal := hashStreamCommon_ok _ data sizes failAt d hd
  generalize chunks data sizes (data.length + sizes.length + 2) = cs at hfinal ⊢
  obtain ⟨hsz, hfx⟩ := foldl_update_size cs (hinted metaLen) (Nat.zero_le _)
  -- a result means the accounted size is the declared one; below the limit nothing saturates
  have hin : Gen.satAdd 0 cs.flatten.length = metaLen := hsz ▸ Gen.finalizeRaw_ok_fixed hfinal hfx
  unfold Gen.satAdd U64_MAX at hin
  unfold Gen.MAX_INPUT_SIZE at hm
  omega

/-- non-vacuity: a reader failing on its second call after delivering data yields the error, not a hash -/
example : hashStream [1, 2, 3, 4, 5] [2, 2] (some (1, 5)) = .error (.io 5) := by
  rw [hashStream_script]
  exact if_pos (by decide)

end Ffuzzy.C18
