/-
  C19 — The exposed hash primitives equal their mathematical definitions.
-/
import FfuzzyProofs.RollingProof
import FfuzzyProofs.Fnv
namespace Ffuzzy.C19

/-- **C19 (rolling hash).** After any byte sequence the value equals, in 32-bit wrapping arithmetic,
    the closed form over the last seven bytes (zero padded): sum + position-weighted sum + shift-xor fold. -/
theorem roll_closed_form (bs : List UInt8) : (Roll.new.update bs).value = rollSpec bs :=
  Prim.roll_closed_form bs

/-- **C19.** the value depends only on the last seven bytes -/
theorem roll_window_only (xs ys : List UInt8) (h : lastWindow xs = lastWindow ys) :
    (Roll.new.update xs).value = (Roll.new.update ys).value :=
  Prim.roll_window_only xs ys h

theorem roll_forgets_prefix (pre w : List UInt8) (hw : w.length = 7) :
    (Roll.new.update (pre ++ w)).value = (Roll.new.update w).value := by
  apply roll_window_only
  simp [lastWindow, hw]

/-- **C19 (partial FNV).** the 6-bit table hash = low six bits of 32-bit FNV-1 with initial value
    0x28021967 over the whole sequence -/
theorem fnv_eq_fnv1_low6 (bs : List UInt8) : fnvUpdate fnvInit bs = fnvSpec bs := by
  rw [Prim.fnvInit_low6, Prim.fnvUpdate_low6]
  rfl

/-- **C19 / C14.** the reduced-table variant (`u8` state, masked on read) computes the same hash -/
theorem fnvReduced_eq_fnvTable (bs : List UInt8) :
    fnvValueReduced (bs.foldl fnvStepReduced fnvInit) = fnvUpdate fnvInit bs :=
  (Prim.fnvUpdate_eq_reduced bs fnvInit).symm

/-- **C19.** slice / iterator / single-byte / `+=` forms agree: all are the same left fold, so any
    split of the input into successive calls gives the same state -/
theorem update_forms_agree (xs ys : List UInt8) :
    (Roll.new.update xs).update ys = Roll.new.update (xs ++ ys) ∧
    ys.foldl Roll.updateByByte (Roll.new.update xs) = Roll.new.update (xs ++ ys) ∧
    fnvUpdate (fnvUpdate fnvInit xs) ys = fnvUpdate fnvInit (xs ++ ys) := by
  simp [Roll.update, fnvUpdate, List.foldl_append]

/-- **C19 (histories).** one hasher fed any sequence of chunks (each through any update form — all
    forms are the same fold) has, after every chunk, the closed-form value of all bytes so far -/
theorem roll_history (cs : List (List UInt8)) :
    (cs.foldl Roll.update Roll.new).value = rollSpec cs.flatten ∧
    cs.foldl fnvUpdate fnvInit = fnvSpec cs.flatten := by
  -- feeding chunk after chunk is one fold over the concatenation
  rw [← roll_closed_form, ← fnv_eq_fnv1_low6, Roll.update, fnvUpdate, List.foldl_flatten, List.foldl_flatten]
  exact ⟨rfl, rfl⟩

/-- states of the partial FNV hash stay below 64 (`invariant!` of `PartialFNVHash::value`) -/
theorem fnv_state_lt (bs : List UInt8) : (fnvUpdate fnvInit bs).toNat < 64 :=
  Prim.fnvUpdate_lt bs fnvInit (by decide)

/-- non-vacuity / sanity: the rolling value of the all-levels trigger word -/
example : (Roll.new.update [0x60, 0x5d, 0x5d, 0x5d, 0x5f, 0x43, 0x54]).value + 1 = 3 * 2 ^ 30 := by decide

end Ffuzzy.C19
