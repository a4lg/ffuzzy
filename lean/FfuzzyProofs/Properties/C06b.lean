/-
  C06 — the parse route: parsing a text directly into a normalising type gives the normalisation of what
  the raw type parses. C16 — equal texts imply equal objects.
-/
import FfuzzyProofs.Properties.C05
import FfuzzyProofs.Properties.C06
import FfuzzyProofs.Properties.C16
namespace Ffuzzy.C06
open Ffuzzy.Spec Ffuzzy.ParseField Ffuzzy.ParseMain

/-- **C06 (parse route).** whenever a text parses as the raw type it also parses as the normalising
    type of the same capacity, with the same end index, and the object is exactly the normalisation
    of the raw object -/
theorem parse_route (cfg : Cfg) (s2 : Nat) (t : List UInt8) (hs2 : s2 ≤ 64) (hr : FH) (i : Nat)
    (hp : FH.parse cfg s2 false t = .ok (hr, i)) :
    FH.parse cfg s2 true t = .ok (FH.normalize false hr, i) := by
  obtain ⟨hv, href⟩ := (C04.parse_ok_iff cfg s2 false t hs2 hr i).mp hp
  -- the normalising type accepts the same text, with the same fields
  obtain ⟨log, r1, r3, hro, hn⟩ := refParse_transfer (norm' := true) (dual' := false) href
    fun cap x hx => fits_of_length_le _ _ _ _ _ (length_le_of_fits _ _ _ _ _ rfl hx)
  obtain ⟨hlog, hb1, hb2, hi⟩ := RefOk.mk.inj hro
  obtain ⟨hvN, hlogN, hN1, hN2⟩ := normalize_eq_collapse s2 hs2 hr hv
  refine (C04.parse_ok_iff cfg s2 true t hs2 _ i).mpr ⟨hvN, ?_⟩
  rw [hn, hlogN, hN1, hN2, hb1, hb2, hlog, hi, ← refBh_true, ← refBh_true]
  rfl

end Ffuzzy.C06

namespace Ffuzzy.C16

/-- **C16 (texts).** valid objects of one type with equal texts are the same object (the converse
    is `eq_iff`: equal objects are structurally equal, hence have equal texts) -/
theorem text_injective (s2 : Nat) (norm : Bool) (hs2 : s2 ≤ 64) (a b : FH) (ha : FH.Valid s2 norm a) (hb : FH.Valid s2 norm b)
    (h : a.text = b.text) : a = b := by
  have cfg : Cfg := { debugAssertions := true, strictParser := false }
  have r1 := C05.text_roundtrip cfg s2 norm a hs2 ha
  have r2 := C05.text_roundtrip cfg s2 norm b hs2 hb
  rw [h, r2] at r1
  exact ((Prod.mk.inj (Except.ok.inj r1)).1).symm

theorem eq_iff_text (s2 : Nat) (norm : Bool) (hs2 : s2 ≤ 64) (a b : FH) (ha : FH.Valid s2 norm a) (hb : FH.Valid s2 norm b) :
    FH.eq a b = true ↔ a.text = b.text := by
  constructor
  · intro h; rw [((eq_iff s2 norm a b ha hb).2).mp h]
  · intro h; rw [text_injective s2 norm hs2 a b ha hb h]; exact ((eq_iff s2 norm b b hb hb).2).mpr rfl

end Ffuzzy.C16
