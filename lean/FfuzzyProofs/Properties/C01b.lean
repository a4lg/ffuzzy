/-
  C01 — against the declarative specification: the generator returns the ssdeep CTPH digest of
  `Spec/Ctph.lean` (cut positions from the closed-form rolling value, 32-bit FNV-1 piece hashes, piece
  limits, block size from the input size and the piece counts) for every input.
-/
import FfuzzyProofs.Properties.C01
import FfuzzyProofs.Decl.Main
namespace Ffuzzy.C01

/-- **C01.** every finalisation form returns the declarative CTPH digest -/
theorem generator_eq_ctph (bs : List UInt8) (trunc : Bool) (s2 : Nat) (hs2 : s2 = 32 ∨ s2 = 64) :
    (Gen.new.update bs).finalizeRaw trunc s2 = Spec.digest bs trunc s2 := by
  rw [generator_eq_reference bs trunc s2 hs2, Decl.naive_eq_declarative bs trunc s2 hs2]

theorem finalize_eq_ctph (bs : List UInt8) : (Gen.new.update bs).finalize = Spec.digest bs true 32 :=
  generator_eq_ctph bs true 32 (Or.inl rfl)

theorem finalizeWithoutTruncation_eq_ctph (bs : List UInt8) :
    (Gen.new.update bs).finalizeWithoutTruncation = Spec.digest bs false 64 :=
  generator_eq_ctph bs false 64 (Or.inr rfl)

theorem hashBuf_eq_ctph (bs : List UInt8) (hlen : bs.length ≤ Gen.MAX_INPUT_SIZE) :
    Gen.hashBuf bs = Spec.digest bs true 32 := by
  rw [hashBuf_eq_reference bs hlen, Decl.naive_eq_declarative bs true 32 (Or.inl rfl)]

end Ffuzzy.C01
