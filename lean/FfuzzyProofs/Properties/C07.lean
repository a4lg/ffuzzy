/-
  C07 — dual hashes are a lossless, canonical encoding of raw plus normalized.
-/
import FfuzzyProofs.Dual.Expand
import FfuzzyProofs.Dual.Valid
import FfuzzyProofs.Dual.ParseRoute
import FfuzzyProofs.ParseMain
import FfuzzyProofs.Properties.C06
namespace Ffuzzy.C07
open Ffuzzy.Spec Ffuzzy.Collapse Ffuzzy.DualA Ffuzzy.DualB Ffuzzy.DualP
open Ffuzzy.ParseBh Ffuzzy.ParseBs Ffuzzy.ParseField Ffuzzy.ParseMain

/-- the RLE block of a raw block hash -/
def rleOf (c : Nat) (x : List UInt8) : List UInt8 := padTo ((compressA x).2.map encodeEnt) c 0

theorem rleOf_length (c : Nat) (x : List UInt8) (hx : ∀ s ∈ x, s ≠ b64Invalid) (hc : x.length ≤ 4 * c) :
    (rleOf c x).length = c := by
  have := (compressA_enc x hx).cnt
  exact length_padTo 0 (by rw [List.length_map]; omega)

/-- one block hash: compress gives `(collapse, RLE)`, expand gives the raw block hash back,
    whatever the destination arrays held before -/
theorem block_roundtrip (n c : Nat) (hn : n ≤ 64) (hc : n ≤ 4 * c) (x : List UInt8) (hx : FH.Content n false x)
    (o1 r1 o2 : List UInt8) (ho1 : o1.length = n) (hr1 : r1.length = c) (ho2 : o2.length = n) :
    compressBlockHash o1 r1 x = some (padTo (collapse x) n 0, rleOf c x, (collapse x).length.toUInt8) ∧
    expandBlockHash o2 (padTo (collapse x) n 0) (collapse x).length.toUInt8 (rleOf c x) =
      (padTo x n 0, x.length.toUInt8) := by
  have hne := sym_ne_invalid hx.sym
  have hlen := hx.len_le
  have henc := compressA_enc x hne
  have hcs := compressBlockHash_spec n c hn hc o1 r1 x ho1 hr1 hne hlen
  rw [compress_out x hne] at hcs henc
  have hol := henc.length_le
  have hcnt := henc.cnt
  have hes := expandBlockHash_spec n c o2 (collapse x) (compressA x).2 ho2 (by omega) (by omega) (by omega)
    (fun e he => by have := good_mem henc.gd e he; omega) (good_sorted henc.gd) (by rw [henc.exp]; exact hlen)
  rw [henc.exp] at hes
  exact ⟨hcs, hes⟩

/-- the canonical dual hash of a raw hash -/
def dualOf (s2 : Nat) (h : FH) : DH :=
  { rle1 := rleOf DH.c1 h.blockHash1, rle2 := rleOf (DH.c2 s2) h.blockHash2, norm := FH.normalize false h }

theorem normalize_obj (s2 : Nat) (hs2 : s2 ≤ 64) (h : FH) (hv : FH.Valid s2 false h) :
    FH.normalize false h = FH.ofContent s2 h.log (collapse h.blockHash1) (collapse h.blockHash2) :=
  hv.normalize (by omega)

theorem dualOf_ofContent (s2 : Nat) (hs2 : s2 ≤ 64) (log : UInt8) (x y : List UInt8)
    (hx : FH.Content FULL_SIZE false x) (hy : FH.Content s2 false y) :
    dualOf s2 (FH.ofContent s2 log x y) =
      { rle1 := rleOf DH.c1 x, rle2 := rleOf (DH.c2 s2) y, norm := FH.ofContent s2 log (collapse x) (collapse y) } := by
  have lx : x.length ≤ 255 := Nat.le_trans hx.len_le (by decide)
  have ly : y.length ≤ 255 := Nat.le_trans hy.len_le (by omega)
  rw [dualOf, FH.normalize_ofContent log (by omega) hx hy, FH.blockHash1_ofContent s2 log y lx,
    FH.blockHash2_ofContent s2 log x ly]

/-- why this file asks `s2 = 32 ∨ s2 = 64` (the two sizes the crate instantiates) where C06 asks
    `s2 ≤ 64`: the RLE block of `s2 / 4` bytes has to hold one entry for every four characters -/
theorem c2_le {s2 : Nat} (hs2 : s2 = 32 ∨ s2 = 64) : s2 ≤ 64 ∧ s2 ≤ 4 * DH.c2 s2 := by
  unfold DH.c2
  rcases hs2 with e | e
  · subst e; decide
  · subst e; decide

/-- **C07 (object route, lossless).** building a dual hash from a valid raw hash — into a fresh or a
    previously used object — gives the canonical dual hash: its normalised part is the normalisation
    of the raw hash, and expanding it — into a fresh or a previously used object — gives exactly the
    raw hash back -/
theorem dual_roundtrip (s2 : Nat) (hs2 : s2 = 32 ∨ s2 = 64) (h : FH) (hv : FH.Valid s2 false h)
    (self : DH) (hs1 : self.norm.bh1.length = FULL_SIZE) (hs2' : self.norm.bh2.length = s2)
    (hs3 : self.rle1.length = DH.c1) (hs4 : self.rle2.length = DH.c2 s2)
    (dest : FH) (hd1 : dest.bh1.length = FULL_SIZE) (hd2 : dest.bh2.length = s2) :
    DH.initFromRawForm self h = some (dualOf s2 h) ∧
    (dualOf s2 h).norm = FH.normalize false h ∧
    DH.intoMutRawForm (dualOf s2 h) dest = h := by
  obtain ⟨hle, hc2⟩ := c2_le hs2
  obtain ⟨p1, q1⟩ := block_roundtrip FULL_SIZE DH.c1 (by decide) (by decide) h.blockHash1 hv.content1
    self.norm.bh1 self.rle1 dest.bh1 hs1 hs3 hd1
  obtain ⟨p2, q2⟩ := block_roundtrip s2 (DH.c2 s2) hle hc2 h.blockHash2 hv.content2
    self.norm.bh2 self.rle2 dest.bh2 hs2' hs4 hd2
  refine ⟨?_, rfl, ?_⟩
  · rw [DH.initFromRawForm, p1]
    simp only
    rw [p2, dualOf, normalize_obj s2 hle h hv]
    rfl
  · rw [DH.intoMutRawForm, dualOf, normalize_obj s2 hle h hv]
    simp only [FH.ofContent]
    rw [q1, q2]
    exact hv.eq_ofContent.symm

/-- the freshly constructed route is the same function -/
theorem fromRawForm_eq (s2 : Nat) (hs2 : s2 = 32 ∨ s2 = 64) (h : FH) (hv : FH.Valid s2 false h) :
    DH.fromRawForm s2 h = some (dualOf s2 h) ∧ DH.toRawForm s2 (dualOf s2 h) = h := by
  have := dual_roundtrip s2 hs2 h hv (DH.new s2) (by simp [DH.new, FH.new]) (by simp [DH.new, FH.new])
    (by simp [DH.new]) (by simp [DH.new]) (FH.new s2) (by simp [FH.new]) (by simp [FH.new])
  exact ⟨this.1, this.2.2⟩

/-- **C07 (canonical).** the dual hashes built from two valid raw hashes are the same object exactly
    when the raw hashes are (equality of objects; `==`, `Hash` and `Ord` on dual hashes are not spoken of) -/
theorem dual_eq_iff (s2 : Nat) (hs2 : s2 = 32 ∨ s2 = 64) (a b : FH) (ha : FH.Valid s2 false a) (hb : FH.Valid s2 false b) :
    dualOf s2 a = dualOf s2 b ↔ a = b := by
  constructor
  · intro h
    have r1 := (fromRawForm_eq s2 hs2 a ha).2
    have r2 := (fromRawForm_eq s2 hs2 b hb).2
    rw [← r1, ← r2, h]
  · intro h; rw [h]

/-- a block hash without runs longer than three has an empty RLE block -/
theorem rleOf_normalized (c : Nat) (y : List UInt8) (hy : ∀ s ∈ y, s ≠ b64Invalid) (hn : collapse y = y) :
    rleOf c y = List.replicate c 0 := by
  have henc := compressA_enc y hy
  have hsum := henc.length
  rw [compress_out y hy, hn] at hsum
  -- the entries add up to nothing, and each is at least one
  have hempty : (compressA y).2 = [] := by
    cases hce : (compressA y).2 with
    | nil => rfl
    | cons e es =>
      obtain ⟨_, _, _, hl1, _⟩ := good_mem henc.gd e (by rw [hce]; exact List.mem_cons_self)
      rw [hce, List.map_cons, List.sum_cons] at hsum
      omega
  rw [rleOf, hempty]
  rfl

/-- **C07 (clearing the reverse-normalisation data).** `normalize_in_place` on a dual hash yields the
    dual hash of the normalised hash, which is also what `from_normalized` builds -/
theorem dual_normalize (s2 : Nat) (hs2 : s2 = 32 ∨ s2 = 64) (h : FH) (hv : FH.Valid s2 false h) :
    DH.normalizeInPlace s2 (dualOf s2 h) = dualOf s2 (FH.normalize false h) ∧
    DH.fromNormalized s2 (FH.normalize false h) = dualOf s2 (FH.normalize false h) := by
  have hle := (c2_le hs2).1
  have c1 := hv.content1.collapsed
  have c2 := hv.content2.collapsed
  have hd : dualOf s2 (FH.normalize false h) =
      { rle1 := List.replicate DH.c1 0, rle2 := List.replicate (DH.c2 s2) 0, norm := FH.normalize false h } := by
    rw [normalize_obj s2 hle h hv, dualOf_ofContent s2 hle _ _ _ c1.toRaw c2.toRaw,
      rleOf_normalized DH.c1 _ (sym_ne_invalid c1.sym) (collapse_idem _),
      rleOf_normalized (DH.c2 s2) _ (sym_ne_invalid c2.sym) (collapse_idem _), collapse_idem, collapse_idem]
  rw [hd]
  exact ⟨rfl, rfl⟩

theorem rle_block_valid (n c : Nat) (hn : n ≤ 64) (x : List UInt8) (hx : FH.Content n false x) :
    isValidRleBlock (padTo (collapse x) n 0) (rleOf c x) (collapse x).length.toUInt8 = true := by
  have hne := sym_ne_invalid hx.sym
  have := isValidRleBlock_enc n c hn _ _ _ (compressA_enc x hne) hx.len_le
  rwa [compress_out x hne] at this

/-- **C07 (validity).** the dual hash of every valid raw hash passes `is_valid` -/
theorem dual_valid (s2 : Nat) (hs2 : s2 = 32 ∨ s2 = 64) (h : FH) (hv : FH.Valid s2 false h) :
    DH.isValid s2 (dualOf s2 h) = true := by
  have hle := (c2_le hs2).1
  obtain ⟨hvn, _, _, _⟩ := C06.normalize_eq_collapse s2 hle h hv
  rw [DH.isValid, dualOf, hvn.isValid, normalize_obj s2 hle h hv]
  exact (Bool.and_eq_true _ _).mpr ⟨rle_block_valid FULL_SIZE DH.c1 (by decide) _ hv.content1,
    rle_block_valid s2 (DH.c2 s2) hle _ hv.content2⟩

theorem parseThreeFields_reports2 (cfg : Cfg) (s2 : Nat) (norm lr : Bool) (str : List UInt8) (b : UInt32) (off : Nat)
    (p : Parsed) (hbs : parseBlockSize str = .ok (b, off)) (hp : parseThreeFields cfg s2 norm lr str = .ok p) :
    p.reports2 = (parseBlockHash cfg s2 (List.replicate s2 0) norm lr
      ((str.drop off).drop (parseBlockHash cfg FULL_SIZE (List.replicate FULL_SIZE 0) norm lr (str.drop off)).consumed)).reports := by
  unfold parseThreeFields at hp
  rw [hbs] at hp
  simp only at hp
  split at hp
  · cases hp
  · cases hp
  · cases hp
  · cases hp
  · split at hp
    · rw [← Except.ok.inj hp]
    · rw [← Except.ok.inj hp]
    · cases hp
    · cases hp
    · cases hp

/-- a text the three-field driver rejects: the dual parser reports the same error, since folding the
    reported runs of a field into its RLE block never panics -/
theorem parse_of_error (cfg : Cfg) (s2 : Nat) (hs2 : s2 = 32 ∨ s2 = 64) (t : List UInt8) (e : ParseError)
    (he : parseThreeFields cfg s2 true true t = .error e) : DH.parse cfg s2 t = some (.error e) := by
  obtain ⟨hle, hc2⟩ := c2_le hs2
  unfold DH.parse
  cases hbs : parseBlockSize t with
  | error e' =>
    have : parseThreeFields cfg s2 true true t = .error e' := by unfold parseThreeFields; rw [hbs]
    rw [Except.error.inj (this.symm.trans he)]
  | ok bo =>
    obtain ⟨b, off⟩ := bo
    obtain ⟨rle1, hr1⟩ := (field_reports cfg FULL_SIZE DH.c1 (by decide) (by decide) (List.replicate FULL_SIZE 0)
      (t.drop off) (List.length_replicate ..)).1
    obtain ⟨rle2, hr2⟩ := (field_reports cfg s2 (DH.c2 s2) hle hc2 (List.replicate s2 0)
      ((t.drop off).drop (parseBlockHash cfg FULL_SIZE (List.replicate FULL_SIZE 0) true true (t.drop off)).consumed)
      (List.length_replicate ..)).1
    simp only [hr1, he, hr2, ite_self]

/-- the raw hash denoted by an accepted dual text -/
def rawOf (s2 log : Nat) (r1 r3 : List UInt8) : FH :=
  { bh1 := padTo ((pre r1).map b64Index) FULL_SIZE 0, bh2 := padTo ((pre r3).map b64Index) s2 0,
    len1 := (pre r1).length.toUInt8, len2 := (pre r3).length.toUInt8, log := log.toUInt8 }

/-- **C07 (text route).** the dual parser never panics; it fails exactly when the reference grammar
    for dual hashes rejects (naming the same part), and otherwise returns the canonical dual hash of
    the raw hash the text denotes, with the reference end index -/
theorem dual_parse_exact (cfg : Cfg) (s2 : Nat) (hs2 : s2 = 32 ∨ s2 = 64) (t : List UInt8) :
    (∀ o, refParse cfg s2 true true t = .error o → ∃ e, DH.parse cfg s2 t = some (.error e) ∧ e.origin = o) ∧
    (∀ ro, refParse cfg s2 true true t = .ok ro →
      ∃ r1 r3, afterDigits t = 58 :: r1 ∧ post r1 = 58 :: r3 ∧
        FH.Valid s2 false (rawOf s2 ro.log r1 r3) ∧
        DH.parse cfg s2 t = some (.ok (dualOf s2 (rawOf s2 ro.log r1 r3), ro.index))) := by
  obtain ⟨hle, hc2⟩ := c2_le hs2
  have hd : (true = true → true = true ∧ true = true) ∧ (true = false → true = false) :=
    ⟨fun _ => ⟨rfl, rfl⟩, fun h => by simp at h⟩
  have hspec := parseThreeFields_spec cfg s2 true true true t hd (by omega)
  have hbsf := blockSize_field t
  refine ⟨fun o ho => ?_, fun ro hro => ?_⟩
  · obtain ⟨e, he, hor⟩ := hspec.2 o ho
    exact ⟨e, parse_of_error cfg s2 hs2 t e he, hor⟩
  · obtain ⟨p, hp, ha⟩ := hspec.1 ro hro
    obtain ⟨log, r1, r3, ⟨h0, hlog, hp1, _⟩, hf1, hf2, hroe⟩ := (refParse_ok_iff ..).mp hro
    obtain ⟨b, hb, hbl, hl31⟩ := hbsf.1 r1 log h0 hlog
    have hrep2 := parseThreeFields_reports2 cfg s2 true true t b _ p hb hp
    have hbuf : t.drop ((digits t).length + 1) = r1 := drop_succ_of_drop h0
    rw [hbuf] at hrep2
    have hF1 := (fits_iff cfg FULL_SIZE true true true r1 hd).mpr hf1
    have hF2 := (fits_iff cfg s2 true true true r3 hd).mpr hf2
    have cn1 := parseBlockHash_consumed cfg FULL_SIZE true true (List.replicate FULL_SIZE 0) r1 hF1
    rw [hp1, List.head?_cons, if_pos (Or.inl rfl)] at cn1
    have hbuf2 : r1.drop (parseBlockHash cfg FULL_SIZE (List.replicate FULL_SIZE 0) true true r1).consumed = r3 :=
      cn1 ▸ drop_succ_of_drop hp1
    rw [hbuf2] at hrep2
    have hR1 := (field_reports cfg FULL_SIZE DH.c1 (by decide) (by decide) (List.replicate FULL_SIZE 0) r1 (by simp)).2 hF1
    have hR2 := (field_reports cfg s2 (DH.c2 s2) hle hc2 (List.replicate s2 0) r3 (by simp)).2 hF2
    -- the raw object: its content is the two decoded fields
    have hraw := length_le_of_fits cfg true true
    have c1 : FH.Content FULL_SIZE false (refBh false r1) := refBh_content false r1 ((List.length_map _).symm ▸ hraw _ _ rfl hf1)
    have c2 : FH.Content s2 false (refBh false r3) := refBh_content false r3 ((List.length_map _).symm ▸ hraw _ _ rfl hf2)
    have hlog2 : p.log = ro.log.toUInt8 := by
      have hlt := ha.logLt
      exact UInt8.toNat_inj.mp (by rw [ha.log, toNat_toUInt8 _ (by omega)])
    have hobj : rawOf s2 ro.log r1 r3 = FH.ofContent s2 p.log (refBh false r1) (refBh false r3) := by
      simp only [rawOf, FH.ofContent, refBh, List.length_map, hlog2, Bool.false_eq_true, if_false]
    have hvalid : FH.Valid s2 false (FH.ofContent s2 p.log (refBh false r1) (refBh false r3)) :=
      FH.valid_ofContent (by omega) (show p.log.toNat < 31 from ha.log ▸ ha.logLt) c1 c2
    refine ⟨r1, r3, h0, hp1, hobj ▸ hvalid, ?_⟩
    rw [hobj, DH.parse, hb]
    simp only
    rw [hbuf, hR1]
    simp only
    rw [hp]
    simp only
    rw [hrep2, hR2, dualOf_ofContent s2 hle _ _ _ c1 c2, ha.bh1, ha.bh2, ha.len1, ha.len2, ha.index, hroe]
    simp only [refOf, refBh_true]
    rfl

end Ffuzzy.C07
