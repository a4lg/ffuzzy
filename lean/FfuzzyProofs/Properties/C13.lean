/-
  C13 — size limits and block-size choice over the whole 0..192 GiB range.
-/
import FfuzzyProofs.Properties.C01
namespace Ffuzzy.C13
open Ffuzzy.Spec Ffuzzy.GenSim

/-- the initial block size index: the smallest `n` with `64·3·2^n ≥ size` -/
theorem initial_index_spec (size : Nat) :
    size ≤ 192 * 2 ^ (Gen.logBlockSizeFromInputSize size 0) ∧
    ∀ m, m < Gen.logBlockSizeFromInputSize size 0 → 192 * 2 ^ m < size :=
  log_spec size

/-- the final index: halved from the initial one while the level has fewer than 32 pieces -/
theorem naiveGuess_spec (n : Naive) : ∀ K,
    naiveGuess n K ≤ K ∧ (naiveGuess n K ≠ 0 → 32 ≤ (n.at (naiveGuess n K)).idx) ∧
    ∀ j, naiveGuess n K < j → j ≤ K → (n.at j).idx < 32 :=
  naiveGuess_greatest n

/-- **C13 (block size).** the block size index of every successful finalisation is ssdeep's choice:
    start at the smallest `n ≤ 30` with `192·2^n ≥ size`, halve while the reference level holds fewer
    than 32 pieces -/
theorem blocksize_choice (bs : List UInt8) (trunc : Bool) (s2 : Nat) (hs2 : s2 = 32 ∨ s2 = 64) (d : Digest)
    (h : (Gen.new.update bs).finalizeRaw trunc s2 = .ok d) :
    d.log = naiveGuess (Naive.feed bs) (min 30 (Gen.logBlockSizeFromInputSize bs.length 0)) := by
  rw [C01.generator_eq_reference bs trunc s2 hs2] at h
  exact (naiveDigest_eq_ok h).1

/-- **C13 (limit).** the default and the long finalisation succeed exactly up to 192 GiB and fail
    with the input-too-large error above -/
theorem size_limit (bs : List UInt8) :
    (Gen.MAX_INPUT_SIZE < bs.length → (Gen.new.update bs).finalize = .error .inputSizeTooLarge ∧
      (Gen.new.update bs).finalizeWithoutTruncation = .error .inputSizeTooLarge) ∧
    (bs.length ≤ Gen.MAX_INPUT_SIZE → (∃ d, (Gen.new.update bs).finalize = .ok d) ∧
      (∃ d, (Gen.new.update bs).finalizeWithoutTruncation = .ok d)) := by
  rw [C01.finalize_eq_reference, C01.finalizeWithoutTruncation_eq_reference]
  unfold naiveDigest Naive.digest
  rw [(ninv_feed bs).size]
  refine ⟨fun h => ?_, fun h => ?_⟩
  · rw [if_pos h, if_pos h]; exact ⟨rfl, rfl⟩
  · have : ¬ Gen.MAX_INPUT_SIZE < bs.length := by omega
    rw [if_neg this, if_neg this]
    simp only
    -- whatever level block hash 2 is taken from
    generalize naiveGuess (Naive.feed bs) (min 30 (Gen.logBlockSizeFromInputSize bs.length 0)) = k
    refine ⟨?_, ?_⟩
    · rw [digest2_trunc]
      exact ⟨_, rfl⟩
    · obtain ⟨b2, hb2⟩ := digest2_long_ok ((Naive.feed bs).at (k + 1)) ((Naive.feed bs).roll.value != 0)
      rw [hb2]
      exact ⟨_, rfl⟩

/-- **C13 (small input query).** true exactly below 4097 bytes -/
theorem mayWarn_iff (bs : List UInt8) : (Gen.new.update bs).mayWarn = decide (bs.length < 4097) := by
  have hJ := J_update Gen.new _ bs J_new
  unfold Gen.mayWarn Gen.MIN_RECOMMENDED_INPUT_SIZE
  rw [hJ.hint, hJ.size]
  simp only [List.nil_append, Option.getD_none]
  unfold U64_MAX
  apply decide_eq_decide.mpr
  omega

end Ffuzzy.C13
