/-
  C12 — fixed-size hint, reset and the generator's error contract, for every history of calls.
-/
import FfuzzyProofs.GenSim.History
namespace Ffuzzy.C12
open Ffuzzy.GenSim

/-- **C12 (master form).** after any history of `update*` / `set_fixed_input_size` / `reset` calls
    every finalisation returns what the caller-visible abstract state prescribes: the size-mismatch
    error when an accepted declaration differs from the number of bytes fed since the last reset, and
    otherwise the reference digest of those bytes — the same with and without a declaration -/
theorem history_digest (ops : List GOp) (trunc : Bool) (s2 : Nat) (hs2 : s2 = 32 ∨ s2 = 64) :
    (ops.foldl GOp.apply Gen.new).finalizeRaw trunc s2 =
      (ops.foldl Abs.apply { bytes := [], hint := none }).digest trunc s2 :=
  J_final _ _ (J_history ops Gen.new _ J_new) trunc s2 hs2

/-- the engine never panics, whatever the history (also when a declaration can no longer be met) -/
theorem history_no_panic (ops : List GOp) : (ops.foldl GOp.apply Gen.new).panicked = false :=
  (J_history ops Gen.new _ J_new).sim.np

/-- the visible size and declaration after any history -/
theorem history_state (ops : List GOp) :
    (ops.foldl GOp.apply Gen.new).inputSize = min (ops.foldl Abs.apply { bytes := [], hint := none }).bytes.length U64_MAX ∧
    (ops.foldl GOp.apply Gen.new).fixedSize = (ops.foldl Abs.apply { bytes := [], hint := none }).hint :=
  ⟨(J_history ops Gen.new _ J_new).size, (J_history ops Gen.new _ J_new).hint⟩

/-- a declaration equal to the number of bytes fed does not change the hash -/
theorem matching_hint_same_hash (a : Abs) (hm : a.hint = some a.bytes.length) (hle : a.bytes.length ≤ U64_MAX)
    (trunc : Bool) (s2 : Nat) :
    a.digest trunc s2 = ({ a with hint := none } : Abs).digest trunc s2 := by
  unfold Abs.digest
  simp [hm, Nat.min_eq_left hle]

/-- a declaration different from the number of bytes fed makes every finalisation fail -/
theorem mismatching_hint_fails (a : Abs) (s : Nat) (hm : a.hint = some s) (hne : s ≠ min a.bytes.length U64_MAX)
    (trunc : Bool) (s2 : Nat) :
    a.digest trunc s2 = .error .fixedSizeMismatch := by
  unfold Abs.digest
  simp [hm, hne]

/-- a declared size above 192 GiB is refused -/
theorem hint_too_large (g : Gen) (s : Nat) (h : s > Gen.MAX_INPUT_SIZE) :
    g.setFixedInputSize s = .error .fixedSizeTooLarge := by
  unfold Gen.setFixedInputSize; simp [h]

/-- a second, different declaration is refused -/
theorem hint_second_different (g : Gen) (x s : Nat) (hx : g.fixedSize = some x) (hne : x ≠ s)
    (h : s ≤ Gen.MAX_INPUT_SIZE) : g.setFixedInputSize s = .error .fixedSizeMismatch := by
  unfold Gen.setFixedInputSize
  have : ¬ s > Gen.MAX_INPUT_SIZE := by omega
  simp [this, hx, hne]

/-- a refused declaration leaves the generator unchanged -/
theorem refused_hint_unchanged (g : Gen) (s : Nat) (e : GenErr) (h : g.setFixedInputSize s = .error e) :
    GOp.apply g (.hint s) = g := by
  show (match g.setFixedInputSize s with | .ok g' => g' | .error _ => g) = g
  rw [h]

/-- **C12 (reset).** after a reset the generator behaves like a new one for every subsequent history:
    same finalisation results, same reported size, same declaration state (hence the same answers
    from `set_fixed_input_size`), regardless of what it processed or had declared before -/
theorem reset_like_new (before after : List GOp) (trunc : Bool) (s2 : Nat) (hs2 : s2 = 32 ∨ s2 = 64) :
    (after.foldl GOp.apply (before.foldl GOp.apply Gen.new).reset).finalizeRaw trunc s2 =
      (after.foldl GOp.apply Gen.new).finalizeRaw trunc s2 ∧
    (after.foldl GOp.apply (before.foldl GOp.apply Gen.new).reset).inputSize = (after.foldl GOp.apply Gen.new).inputSize ∧
    (after.foldl GOp.apply (before.foldl GOp.apply Gen.new).reset).fixedSize = (after.foldl GOp.apply Gen.new).fixedSize := by
  have h0 := J_reset _ _ (J_history before Gen.new _ J_new)
  have h1 := J_history after _ _ h0
  have h2 := J_history after Gen.new _ J_new
  exact ⟨by rw [J_final _ _ h1 trunc s2 hs2, J_final _ _ h2 trunc s2 hs2], by rw [h1.size, h2.size], by rw [h1.hint, h2.hint]⟩

/-- the answers of `set_fixed_input_size` only depend on the declaration state -/
theorem hint_answer_congr (g1 g2 : Gen) (s : Nat) (h : g1.fixedSize = g2.fixedSize) :
    (g1.setFixedInputSize s).toOption.isSome = (g2.setFixedInputSize s).toOption.isSome ∧
    (∀ e, g1.setFixedInputSize s = .error e ↔ g2.setFixedInputSize s = .error e) := by
  unfold Gen.setFixedInputSize
  rw [h]
  by_cases h1 : s > Gen.MAX_INPUT_SIZE
  · simp [h1]
  · by_cases h2 : (g2.fixedSize.isSome && g2.fixedSize != some s) = true
    · simp [h1, h2]
    · simp [h1, h2, Except.toOption]

/-- non-vacuity: a declared size that the data then exceeds -/
example : ([GOp.hint 3, GOp.update [1, 2, 3, 4]].foldl GOp.apply Gen.new).finalizeRaw true 32 = .error .fixedSizeMismatch := by
  rw [history_digest _ true 32 (Or.inl rfl)]
  exact mismatching_hint_fails _ 3 rfl (by decide) true 32

end Ffuzzy.C12
