/-
  C20 — Block-size and score arithmetic is right on its entire domain.
-/
import FfuzzyModel.BlockSize
import FfuzzyModel.PosArray
namespace Ffuzzy.C20

/-- `u32::is_power_of_two`, `x != 0 && x & (x - 1) == 0`, read in `ℕ` -/
theorem isPow2_iff (x : UInt32) : BlockSize.isPow2 x = true ↔ ∃ k, k < 32 ∧ x.toNat = 2 ^ k := by
  have hx := x.toNat_lt
  unfold BlockSize.isPow2
  simp only [Bool.and_eq_true, bne_iff_ne, ne_eq, beq_iff_eq]
  by_cases h0 : x = 0
  · subst h0
    exact ⟨fun h => absurd rfl h.1, fun ⟨k, _, hk⟩ => absurd hk.symm (Nat.pos_iff_ne_zero.mp (Nat.two_pow_pos k))⟩
  · have h0' : x.toNat ≠ 0 := fun e => h0 (UInt32.toNat_inj.mp e)
    have hsub : (x - 1).toNat = x.toNat - 1 :=
      UInt32.toNat_sub_of_le x 1 (UInt32.le_iff_toNat_le.mpr (Nat.pos_of_ne_zero h0'))
    have hand : x &&& (x - 1) = 0 ↔ x.toNat &&& (x.toNat - 1) = 0 := by
      rw [← UInt32.toNat_inj, UInt32.toNat_and, hsub]; rfl
    rw [hand, Nat.and_sub_one_eq_zero_iff_isPowerOfTwo h0']
    exact ⟨fun ⟨_, k, hk⟩ => ⟨k, (Nat.pow_lt_pow_iff_right (by omega)).mp (hk ▸ hx), hk⟩,
      fun ⟨k, _, hk⟩ => ⟨h0, k, hk⟩⟩

/-- **C20.** Exactly the 31 values `3·2^n` (`n < 31`) are valid block sizes — for every `u32`. -/
theorem isValid_iff (x : UInt32) :
    BlockSize.isValid x = true ↔ ∃ n, n < 31 ∧ x.toNat = 3 * 2 ^ n := by
  have hx := x.toNat_lt
  have hmod : x % 3 = 0 ↔ x.toNat % 3 = 0 := by rw [← UInt32.toNat_inj, UInt32.toNat_mod]; rfl
  have hdiv : (x / 3).toNat = x.toNat / 3 := UInt32.toNat_div x 3
  unfold BlockSize.isValid BlockSize.MIN
  simp only [Bool.and_eq_true, beq_iff_eq, isPow2_iff, hmod, hdiv]
  constructor
  · rintro ⟨h3, k, _, hk⟩
    exact ⟨k, (Nat.pow_lt_pow_iff_right (a := 2) (by omega)).mp (by omega), by omega⟩
  · rintro ⟨n, hn, e⟩
    exact ⟨by omega, n, by omega, by omega⟩

/-- the logarithmic form round-trips on all 31 sizes: `from_log n = 3·2^n` and the de Bruijn lookup of
    `log_from_valid` gives `n` back.  Evaluated on the model's functions; `Tables.fromLog_eq` and
    `Tables.logFromValid_eq` say that the crate's tables hold the same values. -/
theorem log_roundtrip : ∀ n : Fin 31,
    BlockSize.fromLog n.val.toUInt8 = some (3 * 2 ^ n.val).toUInt32 ∧
    BlockSize.logFromValid (3 * 2 ^ n.val).toUInt32 = some n.val.toUInt8 := by decide +kernel

/-- the de Bruijn lookup inverts `3·2^n` for every valid size, and every valid `u32` has that form -/
theorem logFromValid_spec (x : UInt32) (h : BlockSize.isValid x = true) :
    ∃ n : Fin 31, x.toNat = 3 * 2 ^ n.val ∧ BlockSize.logFromValid x = some n.val.toUInt8 := by
  obtain ⟨n, hn, e⟩ := (isValid_iff x).mp h
  refine ⟨⟨n, hn⟩, e, ?_⟩
  have hx : x = (3 * 2 ^ n).toUInt32 :=
    UInt32.toNat_inj.mp (e.trans (UInt32.toNat_ofNat_of_lt' (e ▸ x.toNat_lt)).symm)
  rw [hx]
  exact (log_roundtrip ⟨n, hn⟩).2

/-- canonical decimal strings: `BLOCK_SIZES_STR[n]` parses back to `3·2^n`, has at most 10 digits and no
    leading zero.  Evaluated on the model's `BlockSize.str`; `Tables.blockSizeStr_eq` says that the
    crate's strings are these. -/
theorem str_roundtrip : ∀ n : Fin 31,
    (BlockSize.str n.val.toUInt8).foldl (fun acc d => acc * 10 + (d - 48).toNat) 0 = 3 * 2 ^ n.val ∧
    (BlockSize.str n.val.toUInt8).length ≤ 10 ∧ (BlockSize.str n.val.toUInt8).head? ≠ some 48 ∧
    (BlockSize.str n.val.toUInt8).all (fun c => 48 ≤ c && c ≤ 57) = true := by decide +kernel

/-- the size relations of any two log block sizes, in terms of their values; `is_near`'s
    `wrapping_sub(l, r).wrapping_add(1) <= 2` is the one that needs an argument.
    The conjuncts, in order: `isNear`, `isNearEq`, `isNearLt`, `isNearGt`, `compareSizes`, `cmp`. -/
theorem relations (a b : UInt8) :
    BlockSize.isNear a b = decide (a.toNat = b.toNat ∨ a.toNat + 1 = b.toNat ∨ a.toNat = b.toNat + 1) ∧
    BlockSize.isNearEq a b = decide (a.toNat = b.toNat) ∧
    BlockSize.isNearLt a b = decide (a.toNat + 1 = b.toNat) ∧
    BlockSize.isNearGt a b = decide (a.toNat = b.toNat + 1) ∧
    BlockSize.compareSizes a b =
      (if a.toNat = b.toNat then Rel.nearEq else if a.toNat + 1 = b.toNat then Rel.nearLt
       else if a.toNat = b.toNat + 1 then Rel.nearGt else Rel.far) ∧
    BlockSize.cmp a b = compare a.toNat b.toNat := by
  have ha := a.toNat_lt
  have hb := b.toNat_lt
  refine ⟨?_, ?_, ?_, ?_, ?_, ?_⟩
  · rw [BlockSize.isNear, decide_eq_decide, UInt32.le_iff_toNat_le, UInt32.toNat_add, UInt32.toNat_sub,
      UInt8.toNat_toUInt32, UInt8.toNat_toUInt32]
    show ((2 ^ 32 - b.toNat + a.toNat) % 2 ^ 32 + 1) % 2 ^ 32 ≤ 2 ↔ _
    omega
  · rw [BlockSize.isNearEq, Bool.eq_iff_iff, beq_iff_eq, decide_eq_true_iff, UInt8.toNat_inj]
  · rw [BlockSize.isNearLt, Bool.eq_iff_iff, beq_iff_eq, decide_eq_true_iff]; omega
  · rw [BlockSize.isNearGt, BlockSize.isNearLt, Bool.eq_iff_iff, beq_iff_eq, decide_eq_true_iff]; omega
  · have e1 : ((a.toNat : Int) - b.toNat = -1) ↔ a.toNat + 1 = b.toNat := by omega
    have e2 : ((a.toNat : Int) - b.toNat = 0) ↔ a.toNat = b.toNat := by omega
    have e3 : ((a.toNat : Int) - b.toNat = 1) ↔ a.toNat = b.toNat + 1 := by omega
    simp only [BlockSize.compareSizes, beq_iff_eq, e1, e2, e3]
    by_cases h1 : a.toNat = b.toNat
    · simp only [if_pos h1, if_neg (show ¬ a.toNat + 1 = b.toNat by omega)]
    · by_cases h2 : a.toNat + 1 = b.toNat
      · simp only [if_neg h1, if_pos h2]
      · simp only [if_neg h1, if_neg h2]
  · simp only [BlockSize.cmp, compare, compareOfLessAndEq, UInt8.lt_iff_toNat_lt, ← UInt8.toNat_inj]

theorem compareSizes_eq (a b : UInt8) :
    BlockSize.compareSizes a b =
      (if a.toNat = b.toNat then Rel.nearEq else if a.toNat + 1 = b.toNat then Rel.nearLt
       else if a.toNat = b.toNat + 1 then Rel.nearGt else Rel.far) :=
  (relations a b).2.2.2.2.1

/-- on all 31×31 pairs of valid log block sizes the six relations return what their arithmetic definitions say of
    the two indices: `relations`, read on `Fin 31` -/
theorem relations_def : ∀ l r : Fin 31,
    let a := l.val.toUInt8; let b := r.val.toUInt8
    BlockSize.isNear a b = decide (l.val = r.val ∨ l.val + 1 = r.val ∨ l.val = r.val + 1) ∧
    BlockSize.isNearEq a b = decide (l.val = r.val) ∧
    BlockSize.isNearLt a b = decide (l.val + 1 = r.val) ∧
    BlockSize.isNearGt a b = decide (l.val = r.val + 1) ∧
    BlockSize.compareSizes a b =
      (if l.val = r.val then Rel.nearEq else if l.val + 1 = r.val then Rel.nearLt
       else if l.val = r.val + 1 then Rel.nearGt else Rel.far) ∧
    BlockSize.cmp a b = compare l.val r.val := by
  intro l r a b
  have h := relations a b
  rwa [show a.toNat = l.val from UInt8.toNat_ofNat_of_lt' (Nat.lt_trans l.isLt (by decide)),
    show b.toNat = r.val from UInt8.toNat_ofNat_of_lt' (Nat.lt_trans r.isLt (by decide))] at h

/-- `100 - 100 * (64 * d / n) / 64` is the raw score (rs: `raw_score_by_edit_distance`; `Spec.scorePairWith`) for
    distance `d` and summed lengths `n`: the distance is first scaled to `0..=64` (`FULL_SIZE`), then to a
    percentage; below `n` the scaled distance stays below 64 and the quotient below 100 -/
theorem raw_pos {d n : Nat} (h : d < n) : 1 ≤ 100 - 100 * (64 * d / n) / 64 := by
  have : 64 * d / n < 64 := Nat.div_lt_of_lt_mul (by omega)
  omega

/-- **C20.** the raw score equals the ssdeep formula and lies in `1..=100` on its whole domain;
    the checked entry point panics (`none`) exactly outside the domain -/
theorem rawScore_range_formula (l1 l2 d : Nat) :
    (7 ≤ l1 ∧ l1 ≤ 64 ∧ 7 ≤ l2 ∧ l2 ≤ 64 ∧ d ≤ l1 + l2 - 14 →
      ∃ s, PA.rawScoreByEditDistance l1 l2 d = some s ∧
        s = 100 - (100 * ((64 * d) / (l1 + l2))) / 64 ∧ 1 ≤ s ∧ s ≤ 100) ∧
    (¬ (7 ≤ l1 ∧ l1 ≤ 64 ∧ 7 ≤ l2 ∧ l2 ≤ 64 ∧ d ≤ l1 + l2 - 14) →
      PA.rawScoreByEditDistance l1 l2 d = none) := by
  -- the two `assert!`s as one condition
  have heq : PA.rawScoreByEditDistance l1 l2 d =
      if 7 ≤ l1 ∧ l1 ≤ 64 ∧ 7 ≤ l2 ∧ l2 ≤ 64 ∧ d ≤ l1 + l2 - 14
      then some (100 - (100 * ((64 * d) / (l1 + l2))) / 64) else none := by
    simp only [PA.rawScoreByEditDistance, PA.rawScoreByEditDistanceInternal, FULL_SIZE, Nat.mul_comm d,
      Bool.or_eq_true, decide_eq_true_eq]
    split
    · rw [if_neg (by omega)]
    · split
      · rw [if_neg (by omega)]
      · rw [if_pos (by omega)]
  rw [heq]
  exact ⟨fun h => ⟨_, if_pos h, rfl, raw_pos (by omega), Nat.sub_le _ _⟩, fun h => if_neg h⟩

/-- **C20.** the score cap is `2^n·min(l1,l2)` below the border (4) and 100 from the border upward,
    where the uncapped product is itself at least 100 for comparable block hashes -/
theorem cap_formula (n l1 l2 : Nat) :
    (n < 4 → PA.scoreCap n l1 l2 = 2 ^ n * min l1 l2) ∧
    (4 ≤ n → PA.scoreCap n l1 l2 = 100) ∧
    (4 ≤ n → 7 ≤ l1 → 7 ≤ l2 → 100 ≤ 2 ^ n * min l1 l2) := by
  refine ⟨fun h => ?_, fun h => ?_, fun h h1 h2 => ?_⟩
  · simp only [PA.scoreCap, PA.CAPPING_BORDER, ge_iff_le, if_neg (Nat.not_le.mpr h), PA.scoreCapInternal,
      Nat.shiftLeft_eq, Nat.one_mul]
  · simp only [PA.scoreCap, PA.CAPPING_BORDER, ge_iff_le, if_pos h]
  · calc 100 ≤ 2 ^ 4 * 7 := by decide
      _ ≤ 2 ^ n * min l1 l2 := Nat.mul_le_mul (Nat.pow_le_pow_right (by omega) h) (by omega)

/-- non-vacuity: the domain of `rawScore_range_formula` is inhabited with a non-trivial value -/
example : PA.rawScoreByEditDistance 20 30 10 = some 82 := by decide

end Ffuzzy.C20
