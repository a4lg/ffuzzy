/-
  C08 — Block-hash edit distance is the exact insert/delete (LCS) distance.
  The recurrence is proved in `Hyyro` over an abstract array, the array of a string in `PosArrayInit`.
-/
import FfuzzyProofs.Hyyro
import FfuzzyProofs.PosArrayInit
namespace Ffuzzy.C08

theorem editDistanceInternal_eq (p : PA) (b : List UInt8) :
    p.editDistanceInternal b = Hyyro.editDistance p.get p.len.toNat b := rfl

theorem editDistance_initFromPartial (a b : List UInt8) (ha : a.length ≤ 64) (hsym : ∀ x ∈ a, x.toNat < 64) :
    (PA.new.initFromPartial a).editDistanceInternal b = Spec.editDistance a b := by
  rw [editDistanceInternal_eq, PosInit.initFromPartial_len _ a ha]
  exact Hyyro.editDistance_eq_lcs a b _ (PosInit.initFromPartial_spec a hsym) ha

/-- **C08.** For every string `a` of at most 64 symbols (< 64) loaded into a position
    array by `init_from` — whatever the array held before — and every string `b`, the bit-parallel
    edit distance equals `|a| + |b| − 2·LCS(a, b)` with `LCS` the textbook recursion
    (characterised as the maximum common-subsequence length by `Spec.lcs_is_max_common_sublist`).
    `Hyyro.editDistance_eq_lcs` is the same for an abstract array. -/
theorem editDistance_eq_lcs (p0 : PA) (a b : List UInt8)
    (ha : a.length ≤ 64) (hsym : ∀ x ∈ a, x.toNat < 64) :
    ∃ q, p0.initFrom a = some q ∧
      q.editDistanceInternal b = a.length + b.length - 2 * Spec.lcs a b :=
  ⟨_, PosInit.initFrom_eq p0 a ha hsym, editDistance_initFromPartial a b ha hsym⟩

/-- the value is the specification's `editDistance` (and the DP oracle used at run time) -/
theorem editDistance_eq_spec (p0 : PA) (a b : List UInt8)
    (ha : a.length ≤ 64) (hsym : ∀ x ∈ a, x.toNat < 64) :
    ∃ q, p0.initFrom a = some q ∧ q.editDistanceInternal b = Spec.editDistance a b ∧
      q.editDistanceInternal b = Spec.editDistanceDP a b :=
  ⟨_, PosInit.initFrom_eq p0 a ha hsym, editDistance_initFromPartial a b ha hsym,
    by rw [Spec.editDistanceDP_eq]; exact editDistance_initFromPartial a b ha hsym⟩

/-- **C08 (symmetry).** The distance is the same in both argument orders, each string loaded into a
    position array of the model (`Hyyro.editDistance_symm`: for abstract arrays). -/
theorem editDistance_symm (p0 p1 : PA) (a b : List UInt8)
    (ha : a.length ≤ 64) (hb : b.length ≤ 64)
    (hsa : ∀ x ∈ a, x.toNat < 64) (hsb : ∀ x ∈ b, x.toNat < 64) :
    ∃ qa qb, p0.initFrom a = some qa ∧ p1.initFrom b = some qb ∧
      qa.editDistanceInternal b = qb.editDistanceInternal a :=
  ⟨_, _, PosInit.initFrom_eq p0 a ha hsa, PosInit.initFrom_eq p1 b hb hsb,
    by rw [editDistance_initFromPartial a b ha hsa, editDistance_initFromPartial b a hb hsb, Spec.editDistance_comm]⟩

/-- the distance never exceeds `|a| + |b|` and has the parity of `|a| + |b|` -/
theorem editDistance_bounds (a b : List UInt8) :
    Spec.editDistance a b ≤ a.length + b.length ∧
    Spec.editDistance a b + 2 * Spec.lcs a b = a.length + b.length := by
  have h1 := Spec.lcs_le_left a b
  have h2 := Spec.lcs_le_right a b
  unfold Spec.editDistance
  omega

/-- non-vacuity: a concrete pair meeting all hypotheses, with a non-trivial distance -/
example : ∃ q, PA.new.initFrom [1, 2, 3, 4, 5] = some q ∧ q.editDistanceInternal [1, 2, 4, 3, 5] = 2 := by
  obtain ⟨q, hq, h⟩ := editDistance_eq_lcs PA.new [1, 2, 3, 4, 5] [1, 2, 4, 3, 5] (by decide) (by decide)
  exact ⟨q, hq, by rw [h, ← Spec.lcsDP_eq_lcs]; decide⟩

end Ffuzzy.C08
