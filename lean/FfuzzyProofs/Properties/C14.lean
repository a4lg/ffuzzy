/-
  C14 — optional build features do not change results.
  Equality of *builds* is not a statement about one model: it is decided by running every feature
  set against the same model transcript (correspondence).  What is a statement about the model is
  proved here: the strict-parser clause, the reduced FNV table, debug assertions, and the agreement of
  unchecked with checked entry points under their contracts.
-/
import FfuzzyProofs.Properties.C04
import FfuzzyProofs.Fnv
namespace Ffuzzy.C14
open Ffuzzy.Spec Ffuzzy.ParseMain

theorem strict_same_fits (cfg : Cfg) (hS : cfg.strictParser = true) (norm dual norm' dual' : Bool) (cap : Nat) (x : List UInt8) :
    fits cfg norm dual cap x = fits cfg norm' dual' cap x := by
  unfold fits; simp [hS]

/-- **C14 (strict parser, same texts for all types).** under the strict parser the reference grammar accepts
    exactly the same texts, with the same end index, for the raw, normalising and dual types of one capacity
    (`C04.parse_exact` carries each side over to `FH.parse`; that composition is not stated) -/
theorem strict_same_texts (cfg : Cfg) (hS : cfg.strictParser = true) (s2 : Nat) (norm dual norm' dual' : Bool)
    (t : List UInt8) :
    (refParse cfg s2 norm dual t).toOption.map (·.index) = (refParse cfg s2 norm' dual' t).toOption.map (·.index) := by
  have key : ∀ (a b a' b' : Bool) ro, refParse cfg s2 a b t = .ok ro →
      ∃ ro', refParse cfg s2 a' b' t = .ok ro' ∧ ro'.index = ro.index := fun a b a' b' ro h => by
    obtain ⟨log, r1, r3, rfl, h'⟩ := refParse_transfer (norm' := a') (dual' := b') h
      (fun cap x hx => strict_same_fits cfg hS a b a' b' cap x ▸ hx)
    exact ⟨_, h', rfl⟩
  cases h : refParse cfg s2 norm dual t with
  | ok ro => obtain ⟨ro', h', e⟩ := key _ _ norm' dual' ro h; rw [h']; exact congrArg some e.symm
  | error o =>
    cases h' : refParse cfg s2 norm' dual' t with
    | error o' => rfl
    | ok ro' => obtain ⟨ro, h'', _⟩ := key _ _ norm dual ro' h'; rw [h] at h''; cases h''

/-- **C14 (strict vs default).** the strict parser differs from the default one only by rejecting:
    whatever it accepts, the default parser accepts with the very same result -/
theorem strict_imp_default (cfgS cfgD : Cfg) (hS : cfgS.strictParser = true) (hD : cfgD.strictParser = false)
    (s2 : Nat) (norm dual : Bool) (t : List UInt8) (ro : RefOk) (h : refParse cfgS s2 norm dual t = .ok ro) :
    refParse cfgD s2 norm dual t = .ok ro := by
  obtain ⟨log, r1, r3, rfl, h'⟩ := refParse_transfer h (C04.fits_strict_imp cfgS cfgD hS norm dual)
  exact h'

/-- **C14 (strict vs default, plain types).** whatever `from_bytes_with_last_index` accepts under the strict
    parser it accepts under the default one, with the same object and end index -/
theorem parse_strict_imp_default (cfgS cfgD : Cfg) (hS : cfgS.strictParser = true) (hD : cfgD.strictParser = false)
    (s2 : Nat) (hs2 : s2 ≤ 64) (norm : Bool) (t : List UInt8) (h : FH) (i : Nat)
    (hp : FH.parse cfgS s2 norm t = .ok (h, i)) : FH.parse cfgD s2 norm t = .ok (h, i) := by
  obtain ⟨hv, hr⟩ := (C04.parse_ok_iff cfgS s2 norm t hs2 h i).mp hp
  exact (C04.parse_ok_iff cfgD s2 norm t hs2 h i).mpr ⟨hv, strict_imp_default cfgS cfgD hS hD s2 norm false t _ hr⟩

/-- **C14 (reduced FNV table).** the `opt-reduce-fnv-table` state machine (full `u8` state, masked on
    read) yields the same 6-bit values as the table-driven one -/
theorem reduced_fnv (bs : List UInt8) (s : UInt8) :
    fnvUpdate (s &&& 63) bs = fnvValueReduced (bs.foldl fnvStepReduced s) := Prim.fnvUpdate_eq_reduced bs s

/-- **C14 (debug assertions).** the plain parser is the same function in both profiles. No model function
    reads `Cfg.debugAssertions`, since the checked constructor `new_from_internals` asserts in debug and
    release builds alike; this states it for `FH.parse`. -/
theorem debug_irrelevant (cfg : Cfg) (b : Bool) (s2 : Nat) (norm : Bool) (t : List UInt8) :
    FH.parse { cfg with debugAssertions := b } s2 norm t = FH.parse cfg s2 norm t := rfl

/-- **C14 (unchecked entry points).** the checked position-array entry points are the unchecked
    (`_internal`) ones guarded by their documented contracts -/
theorem unchecked_agree (p : PA) (other : List UInt8) (log : Nat) :
    (∀ r, p.editDistance other = some r → r = p.editDistanceInternal other) ∧
    (∀ r, p.hasCommonSubstring other = some r → r = p.hasCommonSubstringInternal other) ∧
    (∀ r, p.scoreStrings other log = some r → r = p.scoreStringsInternal other log) ∧
    (∀ r, p.isEquiv other = some r → r = p.isEquivInternal other) := by
  -- each checked entry point is `if <contract broken> then none else some <the unchecked one>`
  have guard : ∀ {α : Type} {c : Prop} [Decidable c] {x r : α}, (if c then none else some x) = some r → r = x := by
    intro α c _ x r h
    split at h
    · cases h
    · exact (Option.some.inj h).symm
  exact ⟨fun _ => guard, fun _ => guard, fun _ => guard, fun _ => guard⟩

end Ffuzzy.C14
