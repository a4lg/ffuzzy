/-
  C09 — The common-substring pre-filter is exact.
-/
import FfuzzyProofs.CommonSub
import FfuzzyProofs.PosArrayInit
namespace Ffuzzy.C09

/-- the two strings share a contiguous substring of 7 symbols (declarative form) -/
def Common7 (a b : List UInt8) : Prop :=
  ∃ i j, i + 7 ≤ a.length ∧ j + 7 ≤ b.length ∧ ∀ t, t < 7 → a[i + t]? = b[j + t]?

theorem Common7.symm {a b : List UInt8} : Common7 a b → Common7 b a :=
  fun ⟨i, j, hi, hj, h⟩ => ⟨j, i, hj, hi, fun t ht => (h t ht).symm⟩

/-- **C09.** For every `a` of at most 64 symbols loaded by `init_from` (whatever the
    array held before) and every `b`, the backward scan with its skip heuristic answers `true`
    exactly when the strings share 7 contiguous symbols at some pair of offsets. -/
theorem hasCommonSubstring_iff (p0 : PA) (a b : List UInt8)
    (ha : a.length ≤ 64) (hsym : ∀ x ∈ a, x.toNat < 64) :
    ∃ q, p0.initFrom a = some q ∧ (q.hasCommonSubstringInternal b = true ↔ Common7 a b) :=
  ⟨_, PosInit.initFrom_eq p0 a ha hsym, CommonSub.hasCommonSubstring_iff a b _
    (PosInit.initFromPartial_spec a hsym) ha (PosInit.initFromPartial_len _ a ha)⟩

theorem common7_iff (a b : List UInt8) : Spec.common7 a b = true ↔ Common7 a b := by
  unfold Spec.common7 Common7
  simp only [List.any_eq_true, List.mem_range, Bool.and_eq_true, decide_eq_true_eq, beq_iff_eq,
    take_drop_eq_iff]
  constructor
  · rintro ⟨i, hi, j, hj, _, h⟩
    exact ⟨i, j, by omega, by omega, h⟩
  · rintro ⟨i, j, hi, hj, h⟩
    exact ⟨i, by omega, j, by omega, ⟨by omega, by omega⟩, h⟩

theorem hasCommonSubstring_initFromPartial (a b : List UInt8) (ha : a.length ≤ 64) (hsym : ∀ x ∈ a, x.toNat < 64) :
    (PA.new.initFromPartial a).hasCommonSubstringInternal b = Spec.common7 a b :=
  Bool.eq_iff_iff.mpr ((CommonSub.hasCommonSubstring_iff a b _ (PosInit.initFromPartial_spec a hsym) ha
    (PosInit.initFromPartial_len _ a ha)).trans (common7_iff a b).symm)

theorem hasCommonSubstring_eq_spec (p0 : PA) (a b : List UInt8)
    (ha : a.length ≤ 64) (hsym : ∀ x ∈ a, x.toNat < 64) :
    ∃ q, p0.initFrom a = some q ∧ q.hasCommonSubstringInternal b = Spec.common7 a b :=
  ⟨_, PosInit.initFrom_eq p0 a ha hsym, hasCommonSubstring_initFromPartial a b ha hsym⟩

/-- non-vacuity -/
example : ∃ q, PA.new.initFrom [9, 1, 2, 3, 4, 5, 6, 7] = some q ∧
    q.hasCommonSubstringInternal [1, 2, 3, 4, 5, 6, 7, 8] = true := by
  obtain ⟨q, hq, h⟩ := hasCommonSubstring_eq_spec PA.new [9, 1, 2, 3, 4, 5, 6, 7] [1, 2, 3, 4, 5, 6, 7, 8]
    (by decide) (by decide)
  exact ⟨q, hq, by rw [h]; decide⟩

end Ffuzzy.C09
