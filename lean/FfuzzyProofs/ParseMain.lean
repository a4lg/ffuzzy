/-
  The three-field driver `parseThreeFields` against the reference grammar `Spec.refParse`. The grammar is restated
  with the scanners of the field parsers (`ParseField.refBh`, `Fields`, `refOf`), so that acceptance is `Fields` and
  two capacity tests (`refParse_ok_iff`). `Matches` says when a driver result is the grammar's, and
  `parseThreeFields_spec` proves it by walking both parsers field by field.
-/
import FfuzzyProofs.HashValid
import FfuzzyProofs.ParseField
import FfuzzyProofs.Properties.C20
namespace Ffuzzy.ParseMain
open Ffuzzy.Spec Ffuzzy.Collapse Ffuzzy.ParseBh Ffuzzy.ParseBs Ffuzzy.ParseField

theorem three_mul_two_pow_inj (a b : Nat) (h : 3 * 2 ^ a = 3 * 2 ^ b) : a = b :=
  (Nat.pow_right_inj (by omega)).mp (Nat.eq_of_mul_eq_mul_left (by omega) h)

/-- `blockSizeLog` without the search: the canonical decimal of `3·2^log`, `log < 31` -/
theorem blockSizeLog_eq_some_iff (ds : List UInt8) (log : Nat) :
    blockSizeLog ds = some log ↔ ds ≠ [] ∧ ds.head? ≠ some 48 ∧ log < 31 ∧ decimalValue ds = 3 * 2 ^ log := by
  unfold blockSizeLog
  by_cases hc : (ds.isEmpty || ds.head? == some 48) = true
  · rw [if_pos hc]
    simp only [Bool.or_eq_true, List.isEmpty_iff, beq_iff_eq] at hc
    exact ⟨(fun h => nomatch h), fun h => (hc.elim h.1 h.2.1).elim⟩
  · rw [if_neg hc]
    simp only [Bool.or_eq_true, List.isEmpty_iff, beq_iff_eq, not_or] at hc
    constructor
    · intro h
      have hmem : log ∈ List.range 31 := List.mem_of_find?_eq_some h
      have hp : decide (decimalValue ds = 3 * 2 ^ log) = true := (List.find?_some h :)
      exact ⟨hc.1, hc.2, List.mem_range.mp hmem, of_decide_eq_true hp⟩
    · rintro ⟨_, _, hlt, hv⟩
      cases hf : (List.range 31).find? fun n => decide (decimalValue ds = 3 * 2 ^ n) with
      | none => exact absurd (decide_eq_true hv) (List.find?_eq_none.mp hf log (List.mem_range.mpr hlt))
      | some m =>
        -- the search found some `m` with the same value, and the sizes are distinct
        have hp : decide (decimalValue ds = 3 * 2 ^ m) = true := (List.find?_some hf :)
        have hm : 3 * 2 ^ m = 3 * 2 ^ log := (of_decide_eq_true hp).symm.trans hv
        rw [three_mul_two_pow_inj m log hm]

theorem logFromValidInternal_pow (log : Nat) (h : log < 31) :
    BlockSize.logFromValidInternal (3 * 2 ^ log).toUInt32 = log.toUInt8 := by
  have := (C20.log_roundtrip ⟨log, h⟩).2
  unfold BlockSize.logFromValid at this
  split at this
  · exact Option.some.inj this
  · cases this

/-- The block-size field parser succeeds, past the ':', with the size `blockSizeLog` names, and fails in each of
    the three ways the grammar rejects its first field. -/
theorem blockSize_field (t : List UInt8) :
    (∀ r1 log, afterDigits t = 58 :: r1 → blockSizeLog (digits t) = some log →
      ∃ b, parseBlockSize t = .ok (b, (digits t).length + 1) ∧
        (BlockSize.logFromValidInternal b).toNat = log ∧ log < 31) ∧
    ((afterDigits t = [] ∨ (∃ c r, afterDigits t = c :: r ∧ c ≠ 58) ∨ blockSizeLog (digits t) = none) →
      ∃ e, parseBlockSize t = .error e ∧ e.origin = .blockSize) := by
  have hspec : ∀ b off, parseBlockSize t = .ok (b, off) ↔ Accept t 0 0 b off :=
    loop_spec t 0 0 (fun h => nomatch h) (fun _ => rfl)
  refine ⟨fun r1 log h0 hlog => ?_, fun hbad => ?_⟩
  · obtain ⟨hne, hh, hlt, hv⟩ := (blockSizeLog_eq_some_iff _ _).mp hlog
    have h32 : 3 * 2 ^ log < 4294967296 := by
      have : 2 ^ log ≤ 2 ^ 30 := Nat.pow_le_pow_right (by omega) (by omega)
      omega
    refine ⟨(3 * 2 ^ log).toUInt32, (hspec _ _).mpr ?_, ?_, hlt⟩
    · unfold Accept
      rw [decFrom_zero, hv, h0]
      exact ⟨rfl, by have := List.length_pos_iff.mpr hne; omega, fun _ => hh, h32,
        (C20.isValid_iff _).mpr ⟨log, hlt, UInt32.toNat_ofNat_of_lt' h32⟩, rfl, by omega⟩
    · rw [logFromValidInternal_pow log hlt]
      exact toNat_toUInt8 log (by omega)
  · cases hres : parseBlockSize t with
    | error e => exact ⟨e, rfl, loop_error_origin t 0 0 true e hres⟩
    | ok p =>
      obtain ⟨hcolon, hpos, hlead, hrange, hvalid, _⟩ := (hspec p.1 p.2).mp hres
      rw [decFrom_zero] at hrange hvalid
      rcases hbad with h | ⟨c, r, h, hc⟩ | h
      · rw [h] at hcolon; cases hcolon
      · rw [h] at hcolon; exact absurd (Option.some.inj hcolon) hc
      · obtain ⟨n, hn, hv⟩ := (C20.isValid_iff _).mp hvalid
        rw [UInt32.toNat_ofNat_of_lt' hrange] at hv
        have hne : digits t ≠ [] := fun e => by rw [e] at hpos; exact absurd hpos (Nat.lt_irrefl 0)
        rw [(blockSizeLog_eq_some_iff _ _).mpr ⟨hne, hlead rfl, hn, hv⟩] at h
        cases h

theorem refBh_content {n : Nat} (nm : Bool) (bytes : List UInt8) (hfit : (refBh nm bytes).length ≤ n) :
    FH.Content n nm (refBh nm bytes) := by
  refine ⟨hfit, fun s hs => ?_, fun hnm => ?_⟩
  · obtain ⟨c, hc, rfl⟩ := List.mem_map.mp hs
    have hcx : c ∈ pre bytes := by
      cases nm
      · exact hc
      · exact collapse_mem _ c hc
    exact (b64_roundtrip c (pre_all bytes c hcx)).2
  · subst hnm
    rw [refBh_true]
    exact collapse_idem _

/-- the content of a field that fits, in the terms of the reference grammar -/
theorem field_cases (cfg : Cfg) (n : Nat) (nm lr : Bool) (bytes : List UInt8) (hfit : fitsF cfg n nm lr bytes) :
    (refBh nm bytes).length ≤ n ∧
    (parseBlockHash cfg n (List.replicate n 0) nm lr bytes).bh = padTo (refBh nm bytes) n 0 ∧
    (parseBlockHash cfg n (List.replicate n 0) nm lr bytes).len = (refBh nm bytes).length := by
  have hle := outOf_length_le_of_fitsF hfit
  have hroom : (outOf nm bytes 0 b64Invalid).length ≤ (List.replicate n (0 : UInt8)).length := by
    rw [List.length_replicate]; exact hle
  rw [parseBlockHash_of_fits cfg n nm lr _ bytes hfit, finish_bh, finish_len, scan_field_len, scan_field_bh nm _ bytes hroom]
  rw [outOf_eq_ref] at hle ⊢
  exact ⟨hle, setSlice_replicate .., rfl⟩

/-- the field structure of an accepted text: `digits ':' pre r1 ':' pre r3`, then the end or a comma -/
structure Fields (t : List UInt8) (log : Nat) (r1 r3 : List UInt8) : Prop where
  size : afterDigits t = 58 :: r1
  log : blockSizeLog (digits t) = some log
  colon : post r1 = 58 :: r3
  stop : ∀ c r5, post r3 = c :: r5 → c = 44

/-- what the reference parser returns for a text with these fields -/
def refOf (norm : Bool) (t : List UInt8) (log : Nat) (r1 r3 : List UInt8) : RefOk :=
  ⟨log, refBh norm r1, refBh norm r3, (digits t).length + 1 + (pre r1).length + 1 + (pre r3).length⟩

theorem refOf_index (norm : Bool) (t : List UInt8) (log : Nat) (r1 r3 : List UInt8) :
    (refOf norm t log r1 r3).index = (digits t).length + 1 + (pre r1).length + 1 + (pre r3).length := rfl

/-- the reference parser written with the scanning helpers (definitionally the same) -/
theorem refParse_unfold (cfg : Cfg) (s2 : Nat) (norm dual : Bool) (t : List UInt8) :
    refParse cfg s2 norm dual t =
      match afterDigits t with
      | [] => .error .blockSize
      | c0 :: r1 =>
        if c0 != 58 then .error .blockSize else
        match blockSizeLog (digits t) with
        | none => .error .blockSize
        | some log =>
          if !fits cfg norm dual FULL_SIZE (pre r1) then .error .blockHash1 else
          match post r1 with
          | [] => .error .blockHash1
          | c1 :: r3 =>
            if c1 != 58 then .error .blockHash1 else
            if !fits cfg norm dual s2 (pre r3) then .error .blockHash2 else
            match post r3 with
            | [] => .ok (refOf norm t log r1 r3)
            | c2 :: _ =>
              if c2 == 44 then .ok (refOf norm t log r1 r3)
              else .error .blockHash2 := rfl

/-- acceptance by the reference parser: the field structure, which depends on neither type nor parser
    flavour, and the two capacity tests -/
theorem refParse_ok_iff (cfg : Cfg) (s2 : Nat) (norm dual : Bool) (t : List UInt8) (ro : RefOk) :
    refParse cfg s2 norm dual t = .ok ro ↔
      ∃ log r1 r3, Fields t log r1 r3 ∧ fits cfg norm dual FULL_SIZE (pre r1) = true ∧
        fits cfg norm dual s2 (pre r3) = true ∧ ro = refOf norm t log r1 r3 := by
  rw [refParse_unfold]
  constructor
  · intro h
    cases h0 : afterDigits t with
    | nil => rw [h0] at h; cases h
    | cons c0 r1 =>
      rw [h0] at h
      by_cases hc0 : c0 = 58
      · subst hc0
        cases hlog : blockSizeLog (digits t) with
        | none => rw [hlog] at h; cases h
        | some log =>
          rw [hlog] at h
          cases f1 : fits cfg norm dual FULL_SIZE (pre r1) with
          | false => simp only [f1] at h; cases h
          | true =>
            cases hp1 : post r1 with
            | nil => simp only [f1, hp1] at h; cases h
            | cons c1 r3 =>
              by_cases hc1 : c1 = 58
              · subst hc1
                cases f2 : fits cfg norm dual s2 (pre r3) with
                | false => simp only [f1, hp1, f2] at h; cases h
                | true =>
                  simp only [f1, hp1, f2] at h
                  cases hp3 : post r3 with
                  | nil =>
                    rw [hp3] at h
                    exact ⟨log, r1, r3, ⟨h0, hlog, hp1, fun c r5 e => by rw [hp3] at e; cases e⟩, f1, f2,
                      (Except.ok.inj h).symm⟩
                  | cons c r5 =>
                    rw [hp3] at h
                    by_cases hc : c = 44
                    · subst hc
                      exact ⟨log, r1, r3, ⟨h0, hlog, hp1, fun c r5 e => by rw [hp3] at e; cases e; rfl⟩, f1, f2,
                        (Except.ok.inj h).symm⟩
                    · have : (c == 44) = false := by simpa using hc
                      simp only [this] at h; cases h
              · have : (c1 != 58) = true := by simpa using hc1
                simp only [f1, hp1, this] at h; cases h
      · have : (c0 != 58) = true := by simpa using hc0
        simp only [this] at h; cases h
  · rintro ⟨log, r1, r3, ⟨h0, hlog, hp1, hstop⟩, f1, f2, rfl⟩
    rw [h0]
    simp only [hlog, f1, hp1, f2]
    cases hp3 : post r3 with
    | nil => rfl
    | cons c r5 => cases hstop c r5 hp3; rfl

/-- a text accepted for one type and flavour is accepted for any other whose capacity tests are
    no stricter, with the same fields -/
theorem refParse_transfer {cfg cfg' : Cfg} {s2 : Nat} {norm dual norm' dual' : Bool} {t : List UInt8} {ro : RefOk}
    (h : refParse cfg s2 norm dual t = .ok ro)
    (hfit : ∀ cap x, fits cfg norm dual cap x = true → fits cfg' norm' dual' cap x = true) :
    ∃ log r1 r3, ro = refOf norm t log r1 r3 ∧ refParse cfg' s2 norm' dual' t = .ok (refOf norm' t log r1 r3) := by
  obtain ⟨log, r1, r3, hF, f1, f2, hro⟩ := (refParse_ok_iff ..).mp h
  exact ⟨log, r1, r3, hro, (refParse_ok_iff ..).mpr ⟨log, r1, r3, hF, hfit _ _ f1, hfit _ _ f2, rfl⟩⟩

theorem Fields.split {t : List UInt8} {log : Nat} {r1 r3 : List UInt8} (h : Fields t log r1 r3) :
    t = digits t ++ 58 :: (pre r1 ++ 58 :: (pre r3 ++ post r3)) := by
  rw [← pre_post r3, ← h.colon, ← pre_post r1, ← h.size, ← digits_afterDigits t]

/-- what it means for a driver result to be the reference result (the bounds and `v1`, `v2` follow from the
    rest; they are carried for `C04.parse_exact`) -/
structure Agrees (s2 : Nat) (norm : Bool) (p : Parsed) (ro : RefOk) : Prop where
  log : p.log.toNat = ro.log
  logLt : ro.log < 31
  bh1 : p.bh1 = padTo ro.bh1 FULL_SIZE 0
  len1 : p.len1 = ro.bh1.length
  fit1 : ro.bh1.length ≤ FULL_SIZE
  bh2 : p.bh2 = padTo ro.bh2 s2 0
  len2 : p.len2 = ro.bh2.length
  fit2 : ro.bh2.length ≤ s2
  index : p.index = ro.index
  v1 : FH.BhValid FULL_SIZE norm p.bh1 p.len1.toUInt8
  v2 : FH.BhValid s2 norm p.bh2 p.len2.toUInt8

/-- the object `FH.parse` builds from a driver result -/
theorem Agrees.toFH {s2 : Nat} {norm : Bool} {p : Parsed} {ro : RefOk} (h : Agrees s2 norm p ro) :
    ({ bh1 := p.bh1, bh2 := p.bh2, len1 := p.len1.toUInt8, len2 := p.len2.toUInt8, log := p.log } : FH) =
      FH.ofContent s2 p.log ro.bh1 ro.bh2 := by
  rw [FH.ofContent, h.bh1, h.bh2, h.len1, h.len2]

/-- the conclusion of `parseThreeFields_spec` with the two results as variables: the same content on success, the
    same offending part on failure; each leaf of the walk is one of the two rules below -/
def Matches (s2 : Nat) (norm : Bool) (r : Except ParseErrorOrigin RefOk) (q : Except ParseError Parsed) : Prop :=
  (∀ ro, r = .ok ro → ∃ p, q = .ok p ∧ Agrees s2 norm p ro) ∧ (∀ o, r = .error o → ∃ e, q = .error e ∧ e.origin = o)

theorem Matches.error {s2 : Nat} {norm : Bool} {o : ParseErrorOrigin} {e : ParseError} (h : e.origin = o) :
    Matches s2 norm (.error o) (.error e) :=
  ⟨nofun, fun _ h' => ⟨e, rfl, by cases h'; exact h⟩⟩

theorem Matches.ok {s2 : Nat} {norm : Bool} {ro : RefOk} {p : Parsed} (h : Agrees s2 norm p ro) :
    Matches s2 norm (.ok ro) (.ok p) :=
  ⟨fun _ h' => ⟨p, rfl, by cases h'; exact h⟩, nofun⟩

/-- **C04 (driver).** the three-field driver agrees with the reference grammar on every byte string:
    same acceptance, same decoded content and end index on success, same offending part on failure.

    Both parsers are walked field by field: the grammar branches on what the scanners see, and in each branch
    the field parser's lemmas tell which state the driver is in, so both reach a leaf together. For `hd` see
    `ParseField.fits_iff`. -/
theorem parseThreeFields_spec (cfg : Cfg) (s2 : Nat) (norm lr dual : Bool) (t : List UInt8)
    (hd : (dual = true → norm = true ∧ lr = true) ∧ (dual = false → lr = false)) (hs2 : s2 ≤ 255) :
    (∀ ro, refParse cfg s2 norm dual t = .ok ro → ∃ p, parseThreeFields cfg s2 norm lr t = .ok p ∧ Agrees s2 norm p ro) ∧
    (∀ o, refParse cfg s2 norm dual t = .error o → ∃ e, parseThreeFields cfg s2 norm lr t = .error e ∧ e.origin = o) := by
  show Matches s2 norm (refParse cfg s2 norm dual t) (parseThreeFields cfg s2 norm lr t)
  have hbs := blockSize_field t
  rw [refParse_unfold]
  unfold parseThreeFields
  cases h0 : afterDigits t with
  | nil => obtain ⟨e, he, ho⟩ := hbs.2 (Or.inl h0); rw [he]; exact Matches.error ho
  | cons c0 r1 =>
    by_cases hc0 : c0 = 58
    · subst hc0
      cases hlog : blockSizeLog (digits t) with
      | none => obtain ⟨e, he, ho⟩ := hbs.2 (Or.inr (Or.inr hlog)); rw [he]; exact Matches.error ho
      | some log =>
        obtain ⟨b, hb, hbl, hl31⟩ := hbs.1 r1 log h0 hlog
        rw [hb]
        simp only [drop_succ_of_drop h0]
        -- the first block hash: too long, or `st1` is its state and `cn1` what it consumed
        have i1 := fits_iff cfg FULL_SIZE norm lr dual r1 hd
        cases hf1 : fits cfg norm dual FULL_SIZE (pre r1) with
        | false =>
          have hnf1 : ¬ fitsF cfg FULL_SIZE norm lr r1 := fun h => Bool.false_ne_true (hf1 ▸ i1.mp h)
          simp only [(parseBlockHash_of_not_fits cfg FULL_SIZE norm lr _ r1 hnf1).1]
          exact Matches.error rfl
        | true =>
          have hF1 := i1.mpr hf1
          have st1 := parseBlockHash_state cfg FULL_SIZE norm lr (List.replicate FULL_SIZE 0) r1 hF1
          have cn1 := parseBlockHash_consumed cfg FULL_SIZE norm lr (List.replicate FULL_SIZE 0) r1 hF1
          obtain ⟨fit1, bh1, len1⟩ := field_cases cfg FULL_SIZE norm lr r1 hF1
          cases hp1 : post r1 with
          | nil =>
            rw [hp1, List.head?_nil, endState_none] at st1
            simp only [st1]
            exact Matches.error rfl
          | cons c1 r3 =>
            rw [hp1, List.head?_cons] at st1 cn1
            by_cases hc1 : c1 = 58
            · subst hc1
              rw [endState_colon] at st1
              rw [if_pos (Or.inl rfl)] at cn1
              simp only [st1, cn1, drop_succ_of_drop hp1]
              -- the second block hash: `st2`, `cn2` likewise
              have i2 := fits_iff cfg s2 norm lr dual r3 hd
              cases hf2 : fits cfg norm dual s2 (pre r3) with
              | false =>
                have hnf2 : ¬ fitsF cfg s2 norm lr r3 := fun h => Bool.false_ne_true (hf2 ▸ i2.mp h)
                simp only [(parseBlockHash_of_not_fits cfg s2 norm lr _ r3 hnf2).1]
                exact Matches.error rfl
              | true =>
                have hF2 := i2.mpr hf2
                have st2 := parseBlockHash_state cfg s2 norm lr (List.replicate s2 0) r3 hF2
                have cn2 := parseBlockHash_consumed cfg s2 norm lr (List.replicate s2 0) r3 hF2
                obtain ⟨fit2, bh2, len2⟩ := field_cases cfg s2 norm lr r3 hF2
                have hv1 := (refBh_content norm r1 fit1).bhValid (by decide)
                have hv2 := (refBh_content norm r3 fit2).bhValid hs2
                rw [← bh1, ← len1] at hv1
                rw [← bh2, ← len2] at hv2
                cases hp2 : post r3 with
                | nil =>
                  rw [hp2, List.head?_nil] at st2 cn2
                  rw [endState_none] at st2
                  rw [if_neg (by simp)] at cn2
                  simp only [st2]
                  exact Matches.ok
                    { log := hbl, logLt := hl31, bh1 := bh1, len1 := len1, fit1 := fit1, bh2 := bh2, len2 := len2,
                      fit2 := fit2, index := by simp only [refOf_index, cn2]; omega, v1 := hv1, v2 := hv2 }
                | cons c2 r5 =>
                  rw [hp2, List.head?_cons] at st2 cn2
                  by_cases hc2 : c2 = 44
                  · subst hc2
                    rw [endState_comma] at st2
                    rw [if_pos (Or.inr rfl)] at cn2
                    simp only [st2]
                    exact Matches.ok
                      { log := hbl, logLt := hl31, bh1 := bh1, len1 := len1, fit1 := fit1, bh2 := bh2, len2 := len2,
                        fit2 := fit2, index := by simp only [refOf_index, cn2]; omega, v1 := hv1, v2 := hv2 }
                  · have b44 : (c2 == 44) = false := by simpa using hc2
                    simp only [b44]
                    by_cases hc2' : c2 = 58
                    · subst hc2'
                      rw [endState_colon] at st2
                      simp only [st2]
                      exact Matches.error rfl
                    · rw [endState_other cfg _ hc2' hc2] at st2
                      split at st2 <;> simp only [st2] <;> exact Matches.error rfl
            · have b58 : (c1 != 58) = true := by simpa using hc1
              simp only [b58]
              by_cases hc1' : c1 = 44
              · subst hc1'
                rw [endState_comma] at st1
                simp only [st1]
                exact Matches.error rfl
              · rw [endState_other cfg _ hc1 hc1'] at st1
                split at st1 <;> simp only [st1] <;> exact Matches.error rfl
    · have b58 : (c0 != 58) = true := by simpa using hc0
      obtain ⟨e, he, ho⟩ := hbs.2 (Or.inr (Or.inl ⟨c0, r1, h0, hc0⟩))
      rw [he]; simp only [b58]; exact Matches.error ho

end Ffuzzy.ParseMain
