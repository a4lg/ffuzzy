/-
  The bit-parallel (Hyyro) recurrence of `edit_distance_internal` computes the LCS distance.
  Proved over `BitVec 64` against an abstract position-array specification `PaSpec`
  (discharged for the concrete `init_from` in `FfuzzyProofs/PosArrayInit.lean`).
-/
import FfuzzyProofs.Lcs
import FfuzzyProofs.ListLemmas
namespace Ffuzzy.Hyyro

/-- the ripple carry of the row update -/
def hc (v e : BitVec 64) : Nat → Bool
  | 0 => false
  | i+1 => if e.getLsbD i then v.getLsbD i else (v.getLsbD i && hc v e i)

theorem carry_eq (v e : BitVec 64) (i : Nat) :
    BitVec.carry i v (e &&& v) false = hc v e i := by
  induction i with
  | zero => simp [hc, BitVec.carry, Nat.mod_one]
  | succ i ih =>
    rw [BitVec.carry_succ, ih]
    simp only [hc, BitVec.getLsbD_and]
    cases e.getLsbD i <;> cases v.getLsbD i <;> cases hc v e i <;> rfl

theorem sub_subset (v p : BitVec 64) (h : p &&& v = p) : v - p = v &&& ~~~p := by
  symm
  rw [BitVec.eq_sub_iff_add_eq, BitVec.add_eq_or_of_and_eq_zero _ _ (by ext i; simp), ← h]
  ext i
  simp only [BitVec.getElem_or, BitVec.getElem_and, BitVec.getElem_not]
  cases v[i] <;> cases p[i] <;> rfl

theorem step_bit (v e : BitVec 64) (i : Nat) (hi : i < 64) :
    (((v + (e &&& v)) ||| (v - (e &&& v))).getLsbD i)
      = (if e.getLsbD i then hc v e i else (v.getLsbD i || hc v e i)) := by
  have hsub : (e &&& v) &&& v = (e &&& v) := by ext j; simp
  rw [sub_subset v (e &&& v) hsub]
  simp only [BitVec.getLsbD_or, BitVec.getLsbD_add hi, carry_eq, BitVec.getLsbD_and, BitVec.getLsbD_not, hi, decide_true, Bool.true_and]
  cases e.getLsbD i <;> cases v.getLsbD i <;> cases hc v e i <;> rfl

/-- prefix-DP cell: LCS of the first i symbols of a against the processed prefix (kept reversed) -/
def P (a : List UInt8) (i : Nat) (B : List UInt8) : Nat := Spec.lcs (a.take i).reverse B

theorem take_succ_rev (a : List UInt8) (i : Nat) (h : i < a.length) :
    (a.take (i+1)).reverse = a[i] :: (a.take i).reverse := by
  rw [List.take_succ_eq_append_getElem h]; simp

theorem P_succ_cons (a : List UInt8) (i : Nat) (h : i < a.length) (y : UInt8) (B : List UInt8) :
    P a (i+1) (y :: B) =
      if a[i] = y then P a i B + 1 else max (P a i (y :: B)) (P a (i+1) B) := by
  unfold P; rw [take_succ_rev a i h, Spec.lcs]

theorem P_zero (a B : List UInt8) : P a 0 B = 0 := by simp [P, Spec.lcs]

theorem P_vert (a : List UInt8) (i : Nat) (h : i < a.length) (B : List UInt8) :
    P a i B ≤ P a (i+1) B ∧ P a (i+1) B ≤ P a i B + 1 := by
  unfold P; rw [take_succ_rev a i h]
  exact ⟨Spec.lcs_le_lcs_cons_left _ _ _, Spec.lcs_cons_left_le_succ _ _ _⟩

theorem P_horiz (a : List UInt8) (i : Nat) (y : UInt8) (B : List UInt8) :
    P a i B ≤ P a i (y :: B) ∧ P a i (y :: B) ≤ P a i B + 1 := by
  unfold P; exact ⟨Spec.lcs_le_lcs_cons_right _ _ _, Spec.lcs_cons_right_le_succ _ _ _⟩

/-- the row invariant: bit i of v is clear exactly when the vertical difference at i is 1 (i < |a|) -/
def RowInv (a : List UInt8) (B : List UInt8) (v : BitVec 64) : Prop :=
  ∀ i, i < 64 → v.getLsbD i = !(decide (i < a.length ∧ P a (i+1) B = P a i B + 1))

/-- the row update (the model's `PA.edStep`); `step_bit` above gives its bits -/
def step (v e : BitVec 64) : BitVec 64 := (v + (e &&& v)) ||| (v - (e &&& v))

/-- one square of the DP table, in terms of its four 0/1 differences: with `D` the vertical difference
    in the old column and `H` the horizontal one in the row above, the new horizontal difference
    (the carry out) and the new vertical difference (the new bit) are as the row update computes them -/
theorem cell (a : List UInt8) (i : Nat) (hi : i < a.length) (y : UInt8) (B : List UInt8) :
    (P a (i+1) (y :: B) = P a (i+1) B + 1 ↔
      if a[i] = y then ¬ P a (i+1) B = P a i B + 1
      else ¬ P a (i+1) B = P a i B + 1 ∧ P a i (y :: B) = P a i B + 1) ∧
    (P a (i+1) (y :: B) = P a i (y :: B) + 1 ↔
      if a[i] = y then ¬ P a i (y :: B) = P a i B + 1
      else P a (i+1) B = P a i B + 1 ∧ ¬ P a i (y :: B) = P a i B + 1) := by
  have hrec := P_succ_cons a i hi y B
  have := P_vert a i hi B
  have := P_horiz a i y B
  have := P_horiz a (i+1) y B
  by_cases hxy : a[i] = y
  · rw [if_pos hxy] at hrec
    rw [if_pos hxy, if_pos hxy]
    omega
  · rw [if_neg hxy] at hrec
    rw [if_neg hxy, if_neg hxy]
    omega

theorem hc_eq (a : List UInt8) (B : List UInt8) (y : UInt8) (v e : BitVec 64)
    (hv : RowInv a B v)
    (he : ∀ i, i < 64 → e.getLsbD i = decide (a[i]? = some y)) (hm : a.length ≤ 64) :
    ∀ i, i ≤ a.length → hc v e i = decide (P a i (y :: B) = P a i B + 1) := by
  intro i
  induction i with
  | zero => intro _; simp [hc, P_zero]
  | succ i ih =>
    intro hi
    have hi' : i < a.length := by omega
    rw [hc, he i (by omega), hv i (by omega), ih (by omega), List.getElem?_eq_getElem hi']
    by_cases hxy : a[i] = y <;> simp [hxy, hi', (cell a i hi' y B).1]

theorem step_inv (a : List UInt8) (B : List UInt8) (y : UInt8) (v e : BitVec 64)
    (hv : RowInv a B v)
    (he : ∀ i, i < 64 → e.getLsbD i = decide (a[i]? = some y)) (hm : a.length ≤ 64) :
    RowInv a (y :: B) (step v e) := by
  intro i hi
  unfold step
  rw [step_bit v e i hi, he i hi, hv i hi]
  by_cases hia : i < a.length
  · rw [hc_eq a B y v e hv he hm i (by omega), List.getElem?_eq_getElem hia]
    by_cases hxy : a[i] = y <;> simp [hxy, hia, (cell a i hia y B).2]
  · simp [hia]

/-- `pa` is the position array of `a` (rs: `representation`, one 64-bit mask per symbol): bit `i` of `pa c` is set
    exactly when `a[i] = c` -/
def PaSpec (a : List UInt8) (pa : UInt8 → BitVec 64) : Prop :=
  ∀ c i, i < 64 → (pa c).getLsbD i = decide (a[i]? = some c)

def rows (pa : UInt8 → BitVec 64) (b : List UInt8) : BitVec 64 :=
  b.foldl (fun v c => step v (pa c)) (BitVec.allOnes 64)

def zeroCount (v : BitVec 64) : Nat := ((List.range 64).filter (fun i => !v.getLsbD i)).length

/-- `PA.editDistanceInternal` over an abstract array `pa` and length `len` (the two are linked, by `rfl`, in
    `C08.editDistanceInternal_eq`); `Spec.editDistance` is the value it is proved to compute -/
def editDistance (pa : UInt8 → BitVec 64) (len : Nat) (b : List UInt8) : Nat :=
  len + b.length - 2 * zeroCount (rows pa b)

theorem rowInv_init (a : List UInt8) : RowInv a [] (BitVec.allOnes 64) := by
  intro i hi
  rw [BitVec.getLsbD_allOnes]
  simp [P, hi, Spec.lcs_nil_right]

theorem rows_inv (a : List UInt8) (pa : UInt8 → BitVec 64) (hpa : PaSpec a pa) (hm : a.length ≤ 64) (b : List UInt8) :
    RowInv a b.reverse (rows pa b) := by
  induction b using List.snoc_induction with
  | hnil => exact rowInv_init a
  | hsnoc b y ih =>
    rw [rows, List.foldl_append, List.reverse_append]
    exact step_inv a _ y _ (pa y) ih (hpa y) hm

/-- the number of `i < n` with vertical difference 1 telescopes to the cell at row `n` (rows beyond
    `|a|` add nothing) -/
theorem count_telescope (a B : List UInt8) (n : Nat) :
    ((List.range n).filter (fun i => decide (i < a.length ∧ P a (i+1) B = P a i B + 1))).length =
      P a (min n a.length) B := by
  induction n with
  | zero => rw [Nat.zero_min, P_zero]; rfl
  | succ n ih =>
    rw [List.range_succ, List.filter_append, List.length_append, ih]
    by_cases hn : n < a.length
    · have ⟨v1, v2⟩ := P_vert a n hn B
      rw [Nat.min_eq_left (by omega), Nat.min_eq_left (by omega)]
      by_cases h : P a (n+1) B = P a n B + 1
      · simp [hn, h]
      · simp [hn, h]; omega
    · rw [Nat.min_eq_right (by omega), Nat.min_eq_right (by omega)]
      simp [hn]

theorem zeroCount_eq (a B : List UInt8) (v : BitVec 64) (hm : a.length ≤ 64) (hv : RowInv a B v) :
    zeroCount v = P a a.length B := by
  rw [zeroCount, List.filter_congr (fun i hi => by rw [hv i (List.mem_range.mp hi), Bool.not_not]),
    count_telescope, Nat.min_eq_right hm]

/-- over any array that meets `PaSpec a`; `C08.editDistance_eq_lcs` is this for the array `init_from` builds -/
theorem editDistance_eq_lcs (a b : List UInt8) (pa : UInt8 → BitVec 64)
    (hpa : PaSpec a pa) (hm : a.length ≤ 64) :
    editDistance pa a.length b = a.length + b.length - 2 * Spec.lcs a b := by
  rw [editDistance, zeroCount_eq a _ _ hm (rows_inv a pa hpa hm b), P, List.take_length, Spec.lcs_reverse]

theorem editDistance_symm (a b : List UInt8) (pa pb : UInt8 → BitVec 64)
    (hpa : PaSpec a pa) (hpb : PaSpec b pb) (ha : a.length ≤ 64) (hb : b.length ≤ 64) :
    editDistance pa a.length b = editDistance pb b.length a := by
  rw [editDistance_eq_lcs a b pa hpa ha, editDistance_eq_lcs b a pb hpb hb]
  exact Spec.editDistance_comm a b

end Ffuzzy.Hyyro
