/-
  The runs the block-hash parser reports (`report_norm_seq`) are exactly the runs the compressor
  encodes, so the RLE block built while parsing is the compressor's.
-/
import FfuzzyProofs.Dual.Compress
import FfuzzyProofs.ParseBh
namespace Ffuzzy.DualP
open Ffuzzy.DualA Ffuzzy.DualB Ffuzzy.ParseBh

/-- entries encoded by a list of reports `(start, raw run length)`: the last kept character of the
    run is at `start + MAX_SEQUENCE_SIZE - 1`, and `length - MAX_SEQUENCE_SIZE` characters were dropped -/
def flat (reports : List (Nat × Nat)) : List (Nat × Nat) :=
  reports.flatMap (fun r => chunks (r.1 + 2) (r.2 - 3))

theorem flat_append (a b : List (Nat × Nat)) : flat (a ++ b) = flat a ++ flat b := List.flatMap_append

theorem applyReports_spec (c : Nat) : ∀ (reports : List (Nat × Nat)) (done : List (Nat × Nat)),
    (∀ r ∈ reports, 4 ≤ r.2) → (done ++ flat reports).length ≤ c →
    DH.applyReports (padTo (done.map encodeEnt) c 0) reports done.length =
      some (padTo ((done ++ flat reports).map encodeEnt) c 0) := by
  intro reports
  induction reports with
  | nil => intro done _ _; rw [flat, List.flatMap_nil, List.append_nil]; rfl
  | cons r rs ih =>
    intro done h4 hc
    obtain ⟨pos, len⟩ := r
    have w : 4 ≤ len := h4 (pos, len) List.mem_cons_self
    have hfl : flat ((pos, len) :: rs) = chunks (pos + 2) (len - 3) ++ flat rs := List.flatMap_cons
    rw [hfl, ← List.append_assoc] at hc ⊢
    have hcl := chunks_length (pos + 2) (len - 3)
    have hc' := hc
    rw [List.length_append, List.length_append, hcl] at hc'
    have hpos : pos + MAX_SEQUENCE_SIZE - 1 = pos + 2 := rfl
    have hlen : (padTo (done.map encodeEnt) c 0).length = c := length_padTo 0 (by rw [List.length_map]; omega)
    have hfit : done.length + (len - 4) / 4 < (padTo (done.map encodeEnt) c 0).length := by rw [hlen]; omega
    rw [DH.applyReports, hpos, updateRleBlock_eq _ _ _ _ w hfit]
    simp only
    rw [← List.length_map (f := encodeEnt), setSlice_padTo, ← List.map_append, List.length_map, ← List.length_append]
    exact ih _ (fun r hr => h4 r (List.mem_cons_of_mem _ hr)) hc

theorem applyReports_flat (c : Nat) (reports : List (Nat × Nat)) (h4 : ∀ r ∈ reports, 4 ≤ r.2)
    (hc : (flat reports).length ≤ c) :
    DH.applyReports (List.replicate c 0) reports 0 = some (padTo ((flat reports).map encodeEnt) c 0) :=
  applyReports_spec c reports [] h4 hc

/-- parser loop state vs list compressor state after the same decoded prefix `p`. `run`: where the run in
    progress began, in the output (`seqStart`: at most three of its characters are kept) and in the input
    (`seqStartIn`: all its `a.seq + 1` characters count); a report is made of these two -/
structure PRel (s : BhLoop) (a : St) (p : List UInt8) : Prop where
  len : s.len = a.out.length
  prev : s.prev = a.prev
  seq : s.seq = min a.seq 3
  idx : s.index = p.length
  run : p ≠ [] → s.seqStart + min (a.seq + 1) 3 = s.len ∧ a.seq + 1 + s.seqStartIn = s.index
  ents : a.ents = flat s.reports
  rep4 : ∀ r ∈ s.reports, 4 ≤ r.2

theorem prel_init (bh : List UInt8) : PRel { bh := bh } {} [] :=
  ⟨rfl, rfl, rfl, rfl, fun h => absurd rfl h, rfl, fun _ hr => nomatch hr⟩

/-- the run in progress, reported as after the loop, is the compressor's flush -/
theorem flush_flat (s : BhLoop) (a : St) (p : List UInt8) (h : PRel s a p) (hi : Inv a p) :
    a.ents ++ pending a = flat (finalReports true s) ∧ ∀ r ∈ finalReports true s, 4 ≤ r.2 := by
  have hse := h.seq
  rw [finalReports, pending_eq]
  unfold MAX_SEQUENCE_SIZE
  simp only [Bool.true_and, decide_eq_true_eq]
  by_cases h3 : 3 ≤ a.seq
  · have hcnt := hi.cnt
    obtain ⟨r1, r2⟩ := h.run (List.ne_nil_of_length_pos (l := p) (by omega))
    rw [Nat.min_eq_right h3] at hse
    rw [Nat.min_eq_right (Nat.le_succ_of_le h3)] at r1
    rw [if_pos h3, if_pos hse, flat_append, ← h.ents]
    refine ⟨?_, fun r hr => ?_⟩
    · -- the parser's report `(seqStart, index - seqStartIn)` names the position and the extra characters
      -- of the compressor's entries
      have hpos : s.len - 1 = s.seqStart + 2 := by omega
      have hext : a.seq - 2 = s.index - s.seqStartIn - 3 := by omega
      rw [flat, List.flatMap_singleton, ← h.len, hpos, hext]
    · rcases List.mem_append.mp hr with h1 | h1
      · exact h.rep4 r h1
      · rw [List.mem_singleton.mp h1]
        show 4 ≤ s.index - s.seqStartIn
        omega
  · rw [if_neg h3, if_neg (by omega), List.append_nil]
    exact ⟨h.ents, h.rep4⟩

theorem keepS_same {curr : UInt8} {s : BhLoop} (h : curr = s.prev) :
    keepS true curr s = { s with seq := s.seq + 1, bh := s.bh.set s.len curr, len := s.len + 1, index := s.index + 1 } := by
  rw [keepS, bhTrack, if_pos rfl, if_pos (beq_iff_eq.mpr h)]

/-- a kept character that starts a new run: the finished run is reported as after the loop -/
theorem keepS_new {curr : UInt8} {s : BhLoop} (h : curr ≠ s.prev) :
    keepS true curr s =
      { s with reports := finalReports true s, seq := 0, seqStart := s.len, seqStartIn := s.index, prev := curr,
               bh := s.bh.set s.len curr, len := s.len + 1, index := s.index + 1 } := by
  rw [keepS, bhTrack, if_pos rfl, if_neg (by simpa using h), finalReports]
  simp only [Bool.true_and, decide_eq_true_eq]

/-- the skip branch of the parser = the `seq + 1` branch of the compressor -/
theorem prel_skip (s : BhLoop) (a : St) (p : List UInt8) (curr : UInt8) (h : PRel s a p) (hi : Inv a p)
    (hc : curr ≠ b64Invalid)
    (hk : skips true curr s = true) : PRel (skipS s) (step a curr) (p ++ [curr]) := by
  simp only [skips, Bool.true_and, Bool.and_eq_true, decide_eq_true_eq, beq_iff_eq] at hk
  unfold skipS
  unfold MAX_SEQUENCE_SIZE at hk ⊢
  have hcp : curr = a.prev := hk.1.trans h.prev
  obtain ⟨r1, r2⟩ := h.run (fun e => hc (hcp.trans (hi.init e)))
  -- the run is at its third character at least, on both sides
  have h2 : 2 ≤ a.seq := by have := h.seq; omega
  have m1 : min (a.seq + 1) 3 = 3 := Nat.min_eq_right (Nat.succ_le_succ h2)
  have m2 : min (a.seq + 1 + 1) 3 = 3 := Nat.min_eq_right (Nat.le_succ_of_le (Nat.succ_le_succ h2))
  rw [m1] at r1
  rw [step_long hcp h2]
  exact ⟨h.len, h.prev, m1.symm, by rw [h.idx, List.length_append]; rfl,
    fun _ => ⟨m2.symm ▸ r1, by show a.seq + 1 + 1 + s.seqStartIn = s.index + 1; omega⟩, h.ents, h.rep4⟩

theorem prel_keep (s : BhLoop) (a : St) (p : List UInt8) (curr : UInt8) (h : PRel s a p) (hi : Inv a p)
    (hc : curr ≠ b64Invalid)
    (hk : skips true curr s = false) : PRel (keepS true curr s) (step a curr) (p ++ [curr]) := by
  simp only [skips, Bool.true_and, Bool.and_eq_false_iff, decide_eq_false_iff_not, beq_eq_false_iff_ne] at hk
  unfold MAX_SEQUENCE_SIZE at hk
  have hse := h.seq
  have hidx : s.index + 1 = (p ++ [curr]).length := by rw [h.idx, List.length_append]; rfl
  by_cases hsame : curr = s.prev
  · have hcp : curr = a.prev := hsame.trans h.prev
    obtain ⟨r1, r2⟩ := h.run (fun e => hc (hcp.trans (hi.init e)))
    have hseq : a.seq < 2 := by
      rcases hk with hk | hk
      · exact absurd hsame hk
      · omega
    -- below the third character the two counters agree
    have m0 : s.seq = a.seq := hse.trans (Nat.min_eq_left (by omega))
    have m1 : min (a.seq + 1) 3 = a.seq + 1 := Nat.min_eq_left (by omega)
    have m2 : min (a.seq + 1 + 1) 3 = a.seq + 1 + 1 := Nat.min_eq_left (by omega)
    rw [m1] at r1
    rw [step_short hcp hseq, keepS_same hsame]
    exact ⟨by simp [h.len], h.prev, by show s.seq + 1 = min (a.seq + 1) 3; rw [m1, m0], hidx,
      fun _ => ⟨by show s.seqStart + min (a.seq + 1 + 1) 3 = s.len + 1; rw [m2, ← r1]; rfl,
        by show a.seq + 1 + 1 + s.seqStartIn = s.index + 1; omega⟩, h.ents, h.rep4⟩
  · obtain ⟨f1, f2⟩ := flush_flat s a p h hi
    rw [step_new (fun e => hsame (e.trans h.prev.symm)), keepS_new hsame]
    exact ⟨by simp [h.len], rfl, rfl, hidx, fun _ => ⟨rfl, Nat.add_comm _ _⟩, f1, f2⟩

/-- `scan` (the parser loop `bhLoop` without its capacity tests) keeps step with the compressor -/
theorem bhLoop_prel : ∀ (x : List UInt8) (s : BhLoop) (a : St) (p : List UInt8), PRel s a p → Inv a p →
    (∀ c ∈ x, c ≠ b64Invalid) → PRel (scan true x s) (x.foldl step a) (p ++ x) := by
  intro x
  induction x with
  | nil => intro s a p h _ _; rwa [List.append_nil]
  | cons c x ih =>
    intro s a p h hi hx
    have hc := hx c List.mem_cons_self
    have next := fun s' hs' => ih s' (step a c) (p ++ [c]) hs' (inv_step a p c hi hc) fun d hd => hx d (List.mem_cons_of_mem _ hd)
    rw [List.append_assoc] at next
    by_cases hk : skips true c s = true
    · rw [scan_cons, if_pos hk]; exact next _ (prel_skip s a p c h hi hc hk)
    · rw [scan_cons, if_neg hk]; exact next _ (prel_keep s a p c h hi hc (by simpa using hk))

/-- the block-hash field of the dual parser: folding the reported runs never overflows the RLE
    block, and when the field ends normally the block is the compressor's -/
theorem field_reports (cfg : Cfg) (n c : Nat) (hn : n ≤ 64) (hc : n ≤ 4 * c) (bh bytes : List UInt8) (hbh : bh.length = n) :
    (∃ rle, DH.applyReports (List.replicate c 0) (parseBlockHash cfg n bh true true bytes).reports 0 = some rle) ∧
    (fitsF cfg n true true bytes →
      DH.applyReports (List.replicate c 0) (parseBlockHash cfg n bh true true bytes).reports 0 =
        some (padTo ((compressA ((pre bytes).map b64Index)).2.map encodeEnt) c 0)) := by
  -- `key`: what `scan` reports on at most `n` symbols folds into the block; closed as after the loop it is the compressor's
  have key : ∀ x : List UInt8, (∀ s ∈ x, s ≠ b64Invalid) → x.length ≤ n →
      (∃ rle, DH.applyReports (List.replicate c 0) (scan true x { bh := bh }).reports 0 = some rle) ∧
      DH.applyReports (List.replicate c 0) (finalReports true (scan true x { bh := bh })) 0 =
        some (padTo ((compressA x).2.map encodeEnt) c 0) := by
    intro x hx hlen
    have hrel := bhLoop_prel x _ _ _ (prel_init bh) inv_init hx
    rw [List.nil_append] at hrel
    have hi := inv_run x hx
    obtain ⟨f1, f2⟩ := flush_flat _ _ _ hrel hi
    have hcnt := hi.flush.cnt
    have hcnt' := hi.cnt
    rw [List.length_append] at hcnt
    refine ⟨⟨_, applyReports_flat c _ hrel.rep4 (by rw [← hrel.ents]; omega)⟩, ?_⟩
    rw [applyReports_flat c _ f2 (by rw [← f1, List.length_append]; omega), ← f1]; rfl
  have hx := pre_ne_invalid bytes
  by_cases hfit : fitsF cfg n true true bytes
  · have hpre : (pre bytes).length ≤ n := by
      unfold fitsF at hfit
      split at hfit
      · exact hfit
      · exact hfit.2 rfl
    have := (key _ hx (by rw [List.length_map]; exact hpre)).2
    rw [parseBlockHash_of_fits cfg n true true bh bytes hfit, finish_reports]
    exact ⟨⟨_, this⟩, fun _ => this⟩
  · obtain ⟨_, k, hk, h⟩ := parseBlockHash_of_not_fits cfg n true true bh bytes hfit
    have := key (((pre bytes).map b64Index).take k) (fun s hs => hx s (List.mem_of_mem_take hs))
      (Nat.le_trans (List.length_take_le ..) (hk rfl))
    rcases h with h | h
    · rw [h]; exact ⟨this.1, fun h' => absurd h' hfit⟩
    · rw [h]; exact ⟨⟨_, this.2⟩, fun h' => absurd h' hfit⟩

end Ffuzzy.DualP
