/-
  The run-length codec of dual hashes on lists (`DualB` is about the model's array functions, `DualP` about the
  parser's route to an RLE block). `compressA` mirrors `compress_block_hash_with_rle` with growing lists instead
  of arrays, `expandA` mirrors `expand_block_hash_using_rle`. One invariant (`Inv`) of the compressor state
  carries everything the array and parser proofs need; its flush is `Enc out es x`, from which expansion, the
  validity scan and the size bounds are stated.
-/
import FfuzzyProofs.Collapse
namespace Ffuzzy.DualA

/-- expansion: entries `(pos, len)` in order; copy up to `pos`, then `len` extra copies of `inp[pos]` -/
def expandGo (inp : List UInt8) : List (Nat × Nat) → Nat → List UInt8 → List UInt8
  | [], src, acc => acc ++ inp.drop src
  | (pos, l) :: es, src, acc =>
    expandGo inp es pos (acc ++ (inp.drop src).take (pos - src) ++ List.replicate l (inp.getD pos 0))

def expandA (inp : List UInt8) (es : List (Nat × Nat)) : List UInt8 := expandGo inp es 0 []

/-- the entries that encode `ext ≥ 1` extra characters after position `pos`, at most 4 (`Rle.MAX_RUN_LENGTH`) each -/
def chunks (pos ext : Nat) : List (Nat × Nat) :=
  List.replicate ((ext - 1) / 4) (pos, 4) ++ [(pos, (ext - 1) % 4 + 1)]

theorem chunks_length (pos ext : Nat) : (chunks pos ext).length = (ext - 1) / 4 + 1 := by
  rw [chunks, List.length_append, List.length_replicate]; rfl

/-- the locals of `compress_block_hash_with_rle`: `seq` counts the repeats of `prev` (run length less one); the
    literal 3 below is `MAX_SEQUENCE_SIZE` -/
structure St where
  out : List UInt8 := []
  ents : List (Nat × Nat) := []
  seq : Nat := 0
  prev : UInt8 := b64Invalid

/-- entries of the run in progress, as the flush would write them -/
def pending (s : St) : List (Nat × Nat) :=
  if s.seq ≥ 3 then chunks (s.out.length - 1) (s.seq + 1 - 3) else []

def step (s : St) (curr : UInt8) : St :=
  if curr == s.prev then
    if s.seq + 1 ≥ 3 then { s with seq := s.seq + 1 }
    else { s with seq := s.seq + 1, out := s.out ++ [curr] }
  else { out := s.out ++ [curr], ents := s.ents ++ pending s, seq := 0, prev := curr }

def compressA (x : List UInt8) : List UInt8 × List (Nat × Nat) :=
  let s := x.foldl step {}
  (s.out, s.ents ++ pending s)

theorem step_long {s : St} {curr : UInt8} (h : curr = s.prev) (h2 : 2 ≤ s.seq) :
    step s curr = { s with seq := s.seq + 1 } := by
  rw [step, if_pos (beq_iff_eq.mpr h), if_pos (Nat.succ_le_succ h2)]

theorem step_short {s : St} {curr : UInt8} (h : curr = s.prev) (h2 : s.seq < 2) :
    step s curr = { s with seq := s.seq + 1, out := s.out ++ [curr] } := by
  rw [step, if_pos (beq_iff_eq.mpr h), if_neg (by omega)]

theorem step_new {s : St} {curr : UInt8} (h : curr ≠ s.prev) :
    step s curr = { out := s.out ++ [curr], ents := s.ents ++ pending s, seq := 0, prev := curr } := by
  rw [step, if_neg (by simpa using h)]

/-- `pending` with its subtraction carried out: the form the proofs use -/
theorem pending_eq (s : St) :
    pending s = if 3 ≤ s.seq then chunks (s.out.length - 1) (s.seq - 2) else [] := rfl

theorem step_prev_eq (s : St) (curr : UInt8) : (step s curr).prev = curr := by
  by_cases h : curr = s.prev
  · by_cases h2 : 2 ≤ s.seq
    · rw [step_long h h2, h]
    · rw [step_short h (by omega), h]
  · rw [step_new h]

theorem step_prev (s : St) (p : List UInt8) (curr : UInt8) (hprev : p ≠ [] → p.getLast? = some s.prev) :
    (p ++ [curr]).getLast? = some (step s curr).prev := by
  rw [List.getLast?_concat, step_prev_eq]

theorem length_le_expandGo (inp : List UInt8) : ∀ (es : List (Nat × Nat)) (src : Nat) (acc : List UInt8),
    acc.length ≤ (expandGo inp es src acc).length := by
  intro es
  induction es with
  | nil => intro _ _; rw [expandGo, List.length_append]; exact Nat.le_add_right _ _
  | cons e es ih =>
    intro src acc
    refine Nat.le_trans ?_ (ih _ _)
    rw [List.length_append, List.length_append]
    exact Nat.le_trans (Nat.le_add_right _ _) (Nat.le_add_right _ _)

theorem expandGo_snoc (inp suf : List UInt8) : ∀ (es : List (Nat × Nat)) (src : Nat) (acc : List UInt8),
    (∀ e ∈ es, e.1 < inp.length) → src ≤ inp.length →
    expandGo (inp ++ suf) es src acc = expandGo inp es src acc ++ suf := by
  intro es
  induction es with
  | nil =>
    intro src acc _ hs
    rw [expandGo, expandGo, List.drop_append_of_le_length hs, List.append_assoc]
  | cons e es ih =>
    intro src acc hpos hs
    obtain ⟨pos, l⟩ := e
    have hp : pos < inp.length := hpos (pos, l) List.mem_cons_self
    -- the copied slice and the repeated character lie inside `inp`
    have hcopy : ((inp ++ suf).drop src).take (pos - src) = (inp.drop src).take (pos - src) := by
      rw [List.drop_append_of_le_length hs, List.take_append_of_le_length (by rw [List.length_drop]; omega)]
    rw [expandGo, expandGo, hcopy, getD_append_left suf 0 hp]
    exact ih _ _ (fun e he => hpos e (List.mem_cons_of_mem _ he)) (Nat.le_of_lt hp)

theorem expandA_snoc (inp : List UInt8) (c : UInt8) (es : List (Nat × Nat)) (hpos : ∀ e ∈ es, e.1 < inp.length) :
    expandA (inp ++ [c]) es = expandA inp es ++ [c] :=
  expandGo_snoc inp [c] es 0 [] hpos (Nat.zero_le _)

theorem expandGo_chunks (inp : List UInt8) (pos ext : Nat) (hext : 1 ≤ ext) (src : Nat) (acc : List UInt8) :
    expandGo inp (chunks pos ext) src acc =
      acc ++ (inp.drop src).take (pos - src) ++ List.replicate ext (inp.getD pos 0) ++ inp.drop pos := by
  -- `k` full entries and a last one of length `r`; after the first the copy is empty
  have h : ∀ (k r src : Nat) (acc : List UInt8), expandGo inp (List.replicate k (pos, 4) ++ [(pos, r)]) src acc =
      acc ++ (inp.drop src).take (pos - src) ++ List.replicate (4 * k + r) (inp.getD pos 0) ++ inp.drop pos := by
    intro k r
    induction k with
    | zero => intro src acc; rw [List.replicate_zero, List.nil_append, expandGo, expandGo, Nat.mul_zero, Nat.zero_add]
    | succ k ih =>
      intro src acc
      have hcount : 4 + (4 * k + r) = 4 * (k + 1) + r := by omega
      rw [List.replicate_succ, List.cons_append, expandGo, ih]
      -- the later entries start at `pos`: their copy is empty, their characters join the four
      rw [Nat.sub_self, List.take_zero, List.append_nil]
      rw [List.append_assoc _ (List.replicate 4 _), List.replicate_append_replicate, hcount]
  rw [chunks, h, show 4 * ((ext - 1) / 4) + ((ext - 1) % 4 + 1) = ext by omega]

theorem expandGo_chunks_last (inp : List UInt8) (c : UInt8) (ext : Nat) (hext : 1 ≤ ext) :
    ∀ (es : List (Nat × Nat)) (src : Nat) (acc : List UInt8), (∀ e ∈ es, e.1 ≤ inp.length) → src ≤ inp.length →
    expandGo (inp ++ [c]) (es ++ chunks inp.length ext) src acc =
      expandGo (inp ++ [c]) es src acc ++ List.replicate ext c := by
  intro es
  induction es with
  | nil =>
    intro src acc _ hs
    -- `ext` copies of the last character, before it or behind it
    rw [List.nil_append, expandGo_chunks _ _ _ hext, expandGo, getD_concat_length, List.drop_left' rfl,
      List.drop_append_of_le_length hs, List.take_left' (List.length_drop ..)]
    simp only [List.append_assoc, List.singleton_append, ← List.replicate_succ, ← List.replicate_succ']
  | cons e es ih =>
    intro src acc hpos _
    rw [List.cons_append, expandGo, expandGo]
    exact ih _ _ (fun e he => hpos e (List.mem_cons_of_mem _ he)) (hpos _ List.mem_cons_self)

theorem expandA_chunks_last (inp : List UInt8) (c : UInt8) (es : List (Nat × Nat)) (ext : Nat) (hext : 1 ≤ ext)
    (hpos : ∀ e ∈ es, e.1 ≤ inp.length) :
    expandA (inp ++ [c]) (es ++ chunks inp.length ext) = expandA (inp ++ [c]) es ++ List.replicate ext c :=
  expandGo_chunks_last inp c ext hext es 0 [] hpos (Nat.zero_le _)

end Ffuzzy.DualA

namespace Ffuzzy.DualB
open Ffuzzy.DualA

-- `good` and `VInv` belong to the validity scan (`Dual/Valid`); they are stated here because the list
-- invariant `Inv` below extends `VInv`.

/-- what the validity scan checks, on decoded entries; `(pp, pl)` = previous position and length -/
def good (content : List UInt8) : List (Nat × Nat) → Nat → Nat → Prop
  | [], _, _ => True
  | (pos, l) :: es, pp, pl =>
    2 ≤ pos ∧ pos < content.length ∧ pp ≤ pos ∧ 1 ≤ l ∧ l ≤ 4 ∧ (pp = pos → pl = 4) ∧
    (pp ≠ pos → content.getD (pos - 1) 0 = content.getD (pos - 2) 0 ∧ content.getD pos 0 = content.getD (pos - 2) 0) ∧
    good content es pos l

theorem good_mem {content : List UInt8} : ∀ {es : List (Nat × Nat)} {pp pl : Nat}, good content es pp pl →
    ∀ e ∈ es, pp ≤ e.1 ∧ 2 ≤ e.1 ∧ e.1 < content.length ∧ 1 ≤ e.2 ∧ e.2 ≤ 4
  | (pos, l) :: es, pp, pl, ⟨hge2, hlt, hord, hl1, hl4, _, _, hrest⟩, x, hx => by
    rcases List.mem_cons.mp hx with rfl | hx
    · exact ⟨hord, hge2, hlt, hl1, hl4⟩
    · have := good_mem hrest x hx
      exact ⟨Nat.le_trans hord this.1, this.2⟩

theorem good_sorted {content : List UInt8} : ∀ {es : List (Nat × Nat)} {pp pl : Nat}, good content es pp pl →
    es.Pairwise (fun a b => a.1 ≤ b.1)
  | [], _, _, _ => List.Pairwise.nil
  | (_, _) :: _, _, _, ⟨_, _, _, _, _, _, _, hrest⟩ =>
    List.Pairwise.cons (fun x hx => (good_mem hrest x hx).1) (good_sorted hrest)

theorem good_mono (content suf : List UInt8) : ∀ {es : List (Nat × Nat)} {pp pl : Nat},
    good content es pp pl → good (content ++ suf) es pp pl
  | [], _, _, _ => trivial
  | (pos, l) :: es, pp, pl, ⟨hge2, hlt, hord, hl1, hl4, hfull, hrun, hrest⟩ => by
    have get : ∀ j, j ≤ pos → (content ++ suf).getD j 0 = content.getD j 0 := fun j hj =>
      getD_append_left suf 0 (by omega)
    have hlt' : pos < (content ++ suf).length := by rw [List.length_append]; omega
    refine ⟨hge2, hlt', hord, hl1, hl4, hfull, fun hne => ?_, good_mono content suf hrest⟩
    rw [get _ (by omega), get _ (by omega), get _ (Nat.le_refl _)]
    exact hrun hne

theorem good_append {content : List UInt8} {e2 : List (Nat × Nat)} {q : Nat}
    (h2 : ∀ pp pl, pp < q → good content e2 pp pl) : ∀ {e1 : List (Nat × Nat)} {pp pl : Nat},
    good content e1 pp pl → (∀ e ∈ e1, e.1 < q) → pp < q → good content (e1 ++ e2) pp pl
  | [], pp, pl, _, _, hq => h2 pp pl hq
  | _ :: _, _, _, ⟨hge2, hlt, hord, hl1, hl4, hfull, hrun, hrest⟩, hq, _ =>
    ⟨hge2, hlt, hord, hl1, hl4, hfull, hrun,
      good_append h2 hrest (fun x hx => hq x (List.mem_cons_of_mem _ hx)) (hq _ List.mem_cons_self)⟩

/-- the first entry of a run rests on the three equal characters before it, each later one on its
    predecessor's full length -/
theorem good_chunks {content : List UInt8} {pos : Nat} (ext : Nat) (h2 : 2 ≤ pos) (hl : pos < content.length)
    (h3 : content.getD (pos - 1) 0 = content.getD (pos - 2) 0 ∧ content.getD pos 0 = content.getD (pos - 2) 0)
    {pp : Nat} (pl : Nat) (hpp : pp < pos) : good content (chunks pos ext) pp pl := by
  have h : ∀ (k pp pl : Nat), pp ≤ pos → (pp = pos → pl = 4) →
      good content (List.replicate k (pos, 4) ++ [(pos, (ext - 1) % 4 + 1)]) pp pl := by
    intro k
    induction k with
    | zero => exact fun pp pl hle h4 => ⟨h2, hl, hle, Nat.succ_pos _, by omega, h4, fun _ => h3, trivial⟩
    | succ k ih =>
      exact fun pp pl hle h4 => ⟨h2, hl, hle, by decide, by decide, h4, fun _ => h3, ih pos 4 (Nat.le_refl _) fun _ => rfl⟩
  exact h _ pp pl (Nat.le_of_lt hpp) fun e => absurd e (Nat.ne_of_lt hpp)

/-- the part of the list compressor's invariant (after the input `p`) that the validity scan needs:
    `tail`: `out` ends with the kept characters of the run in progress, at most three of its `seq + 1`;
    `strict`: every finished entry lies strictly before the last character of `out`;
    `gd`: the finished entries pass the scan -/
structure VInv (s : St) (p : List UInt8) : Prop where
  tail : p ≠ [] → ∃ o0, s.out = o0 ++ List.replicate (min (s.seq + 1) 3) s.prev
  strict : ∀ e ∈ s.ents, e.1 + 1 < s.out.length
  gd : good s.out s.ents 0 0

end Ffuzzy.DualB

namespace Ffuzzy.DualA
open Ffuzzy.Spec Ffuzzy.Collapse Ffuzzy.DualB

/-- the entries `es` over `out` describe `x`: they expand to it, pass the validity scan (hence are
    sorted, in range and lie inside `out`) and are few enough for the RLE block -/
structure Enc (out : List UInt8) (es : List (Nat × Nat)) (x : List UInt8) : Prop where
  exp : expandA out es = x
  gd : good out es 0 0
  cnt : 4 * es.length ≤ x.length

/-- the invariant of the list compressor after the input `p`:
    `init`: before the first character `prev` is the sentinel, which no character equals, so a repeated
      character is never the first one;
    `exp`: the finished entries expand to `p` less the `s.seq - 2` characters of the run in progress that
      no entry accounts for yet;
    `cnt`: the capacity of the RLE block: a run of `k` characters takes `⌈(k - 3) / 4⌉ ≤ k / 4` entries, so
      four characters of input pay for every entry; the run in progress, `seq + 1` characters so far, has
      yet to take its own (`Enc.cnt` is the bound after the flush) -/
structure Inv (s : St) (p : List UInt8) : Prop extends VInv s p where
  init : p = [] → s.prev = b64Invalid
  exp : expandA s.out s.ents ++ List.replicate (s.seq - 2) s.prev = p
  cnt : 4 * s.ents.length + s.seq ≤ p.length - 1

theorem inv_init : Inv {} [] :=
  { tail := fun h => absurd rfl h, strict := fun _ he => (nomatch he), gd := trivial, init := fun _ => rfl, exp := rfl,
    cnt := Nat.le_refl _ }

theorem expandGo_length (inp : List UInt8) : ∀ (es : List (Nat × Nat)) (src pl : Nat) (acc : List UInt8),
    good inp es src pl → (expandGo inp es src acc).length = acc.length + (inp.length - src) + (es.map (·.2)).sum := by
  intro es
  induction es with
  | nil => intro _ _ _ _; rw [expandGo, List.length_append, List.length_drop]; rfl
  | cons e es ih =>
    intro src pl acc hg
    obtain ⟨pos, l⟩ := e
    obtain ⟨_, hlt, hord, _, _, _, _, hrest⟩ := hg
    rw [expandGo, ih pos l _ hrest]
    simp only [List.length_append, List.length_take, List.length_drop, List.length_replicate, List.map_cons,
      List.sum_cons]
    omega

namespace Enc
variable {out : List UInt8} {es : List (Nat × Nat)} {x : List UInt8}

theorem lt (h : Enc out es x) : ∀ e ∈ es, e.1 < out.length := fun e he => by
  obtain ⟨_, _, hlt, _, _⟩ := good_mem h.gd e he
  exact hlt

theorem length (h : Enc out es x) : out.length + (es.map (·.2)).sum = x.length := by
  rw [← h.exp, expandA, expandGo_length out es 0 0 [] h.gd, List.length_nil, Nat.zero_add, Nat.sub_zero]

theorem length_le (h : Enc out es x) : out.length ≤ x.length := Nat.le.intro h.length

theorem snoc (h : Enc out es x) (c : UInt8) : Enc (out ++ [c]) es (x ++ [c]) :=
  ⟨by rw [expandA_snoc _ _ _ h.lt, h.exp], good_mono _ _ h.gd, by rw [List.length_append]; exact Nat.le_succ_of_le h.cnt⟩

end Enc

theorem Inv.enc {s : St} {p : List UInt8} (h : Inv s p) (h3 : s.seq < 3) : Enc s.out s.ents p := by
  refine ⟨?_, h.gd, by have := h.cnt; omega⟩
  have := h.exp
  rwa [Nat.sub_eq_zero_of_le (Nat.le_of_lt_succ h3), List.replicate_zero, List.append_nil] at this

theorem Inv.flush {s : St} {p : List UInt8} (h : Inv s p) : Enc s.out (s.ents ++ pending s) p := by
  rw [pending_eq]
  by_cases h3 : 3 ≤ s.seq
  · have hcnt := h.cnt
    obtain ⟨o0, ho⟩ := h.tail (List.ne_nil_of_length_pos (by omega))
    -- `out` ends with the three kept characters of the run
    rw [Nat.min_eq_right (Nat.le_succ_of_le h3)] at ho
    have hl : s.out.length - 1 = o0.length + 2 := by
      rw [ho, List.length_append, List.length_replicate]; rfl
    have hle : ∀ e ∈ s.ents, e.1 < o0.length + 2 := fun e he => by
      have := h.strict e he
      omega
    rw [if_pos h3, hl]
    refine ⟨?_, ?_, ?_⟩
    · have hlast : o0.length + 2 = (o0 ++ List.replicate 2 s.prev).length := by
        rw [List.length_append, List.length_replicate]
      have := h.exp
      rw [ho, List.replicate_succ', ← List.append_assoc] at this ⊢
      rw [hlast, expandA_chunks_last _ _ _ _ (by omega) (fun e he => hlast ▸ Nat.le_of_lt (hle e he)), this]
    · -- they are what the first entry of the run rests on
      have get : ∀ j, j < 3 → s.out.getD (o0.length + j) 0 = s.prev := fun j hj => by
        rw [ho, List.getD_eq_getElem?_getD, List.getElem?_append_right (Nat.le_add_right _ _), Nat.add_sub_cancel_left,
          List.getElem?_replicate, if_pos hj]
        rfl
      have hrun : s.out.getD (o0.length + 1) 0 = s.out.getD o0.length 0 ∧
          s.out.getD (o0.length + 2) 0 = s.out.getD o0.length 0 :=
        ⟨(get 1 (by decide)).trans (get 0 (by decide)).symm, (get 2 (by decide)).trans (get 0 (by decide)).symm⟩
      have hin : o0.length + 2 < s.out.length := by omega
      -- the finished entries lie before the run's last kept character, so its entries may follow them
      have hchunks : ∀ pp pl, pp < o0.length + 2 → good s.out (chunks (o0.length + 2) (s.seq - 2)) pp pl :=
        fun _ pl hpp => good_chunks _ (Nat.le_add_left 2 _) hin hrun pl hpp
      exact good_append hchunks h.gd hle (Nat.succ_pos _)
    · rw [List.length_append, chunks_length]; omega
  · rw [if_neg h3, List.append_nil]
    exact h.enc (Nat.lt_of_not_le h3)

theorem inv_long {s : St} {p : List UInt8} (h : Inv s p) (hne : p ≠ []) (h2 : 2 ≤ s.seq) :
    Inv { s with seq := s.seq + 1 } (p ++ [s.prev]) := by
  obtain ⟨o0, ho⟩ := h.tail hne
  have hpl : 1 ≤ p.length := List.length_pos_iff.mpr hne
  have hcnt := h.cnt
  refine { tail := fun _ => ⟨o0, ?_⟩, strict := h.strict, gd := h.gd, init := fun e => absurd e (by simp), exp := ?_,
           cnt := ?_ }
  · -- both counters are past the third character
    rw [Nat.min_eq_right (Nat.succ_le_succ h2)] at ho
    exact ho.trans (by rw [Nat.min_eq_right (Nat.le_succ_of_le (Nat.succ_le_succ h2))])
  · show expandA s.out s.ents ++ List.replicate (s.seq + 1 - 2) s.prev = p ++ [s.prev]
    rw [Nat.sub_add_comm h2, List.replicate_succ', ← List.append_assoc, h.exp]
  · show 4 * s.ents.length + (s.seq + 1) ≤ (p ++ [s.prev]).length - 1
    rw [List.length_append, List.length_singleton]
    omega

/-- the two branches of `step` that keep the character `c`, the `(k + 1)`-th of its run: the state
    after it, from entries that describe the input before it (the flushed ones where `c` starts a run) -/
theorem inv_keep {out : List UInt8} {es : List (Nat × Nat)} {p : List UInt8} (h : Enc out es p) (c : UInt8) {k : Nat}
    (hk : k < 3) (o0 : List UInt8) (htail : out ++ [c] = o0 ++ List.replicate (k + 1) c) (hcnt : 4 * es.length + k ≤ p.length) :
    Inv { out := out ++ [c], ents := es, seq := k, prev := c } (p ++ [c]) :=
  { tail := fun _ => ⟨o0, by rw [Nat.min_eq_left (Nat.succ_le_of_lt hk)]; exact htail⟩
    strict := fun e he => by
      show e.1 + 1 < (out ++ [c]).length
      rw [List.length_append]
      exact Nat.succ_lt_succ (h.lt e he)
    gd := (h.snoc c).gd
    init := fun e => absurd e (by simp)
    exp := by
      show expandA (out ++ [c]) es ++ List.replicate (k - 2) c = p ++ [c]
      rw [Nat.sub_eq_zero_of_le (Nat.le_of_lt_succ hk), List.replicate_zero, List.append_nil]
      exact (h.snoc c).exp
    cnt := by
      show 4 * es.length + k ≤ (p ++ [c]).length - 1
      rw [List.length_append]
      exact hcnt }

theorem inv_short {s : St} {p : List UInt8} (h : Inv s p) (hne : p ≠ []) (h2 : s.seq < 2) :
    Inv { s with seq := s.seq + 1, out := s.out ++ [s.prev] } (p ++ [s.prev]) := by
  obtain ⟨o0, ho⟩ := h.tail hne
  have hpl : 1 ≤ p.length := List.length_pos_iff.mpr hne
  have hcnt := h.cnt
  rw [Nat.min_eq_left (Nat.le_succ_of_le (Nat.succ_le_of_lt h2))] at ho
  exact inv_keep (h.enc (Nat.lt_succ_of_lt h2)) s.prev (Nat.succ_lt_succ h2) o0
    (by rw [ho, List.replicate_succ' (n := s.seq + 1), List.append_assoc]) (by omega)

theorem inv_new {s : St} {p : List UInt8} (h : Inv s p) (c : UInt8) :
    Inv { out := s.out ++ [c], ents := s.ents ++ pending s, seq := 0, prev := c } (p ++ [c]) :=
  inv_keep h.flush c (by decide) s.out rfl h.flush.cnt

theorem inv_step (s : St) (p : List UInt8) (curr : UInt8) (h : Inv s p) (hc : curr ≠ b64Invalid) :
    Inv (step s curr) (p ++ [curr]) := by
  by_cases hsame : curr = s.prev
  · -- a repeated character is not the first one: the state before the input holds the sentinel
    have hne : p ≠ [] := fun e => hc (hsame.trans (h.init e))
    subst hsame
    by_cases h2 : 2 ≤ s.seq
    · rw [step_long rfl h2]
      exact inv_long h hne h2
    · rw [step_short rfl (Nat.lt_of_not_le h2)]
      exact inv_short h hne (Nat.lt_of_not_le h2)
  · rw [step_new hsame]
    exact inv_new h curr

theorem inv_run (x : List UInt8) (hx : ∀ c ∈ x, c ≠ b64Invalid) : Inv (x.foldl step {}) x := by
  induction x using List.snoc_induction with
  | hnil => exact inv_init
  | hsnoc p c ih =>
    rw [List.foldl_append]
    exact inv_step _ p c (ih fun d hd => hx d (List.mem_append_left _ hd)) (hx c (List.mem_append_right _ List.mem_cons_self))

theorem compressA_enc (x : List UInt8) (hx : ∀ c ∈ x, c ≠ b64Invalid) : Enc (compressA x).1 (compressA x).2 x :=
  (inv_run x hx).flush

/-- expanding the compressed form gives back the input -/
theorem expand_compress (x : List UInt8) (hx : ∀ c ∈ x, c ≠ b64Invalid) :
    expandA (compressA x).1 (compressA x).2 = x ∧
    ∀ e ∈ (compressA x).2, e.1 < (compressA x).1.length :=
  ⟨(compressA_enc x hx).exp, (compressA_enc x hx).lt⟩

theorem fold_out (x : List UInt8) : ∀ s : St, (x.foldl step s).out = s.out ++ normList x (min s.seq 3) s.prev := by
  induction x with
  | nil => intro s; exact (List.append_nil _).symm
  | cons c cs ih =>
    intro s
    rw [List.foldl_cons, ih, normList]
    by_cases hsame : c = s.prev
    · rw [if_pos (beq_iff_eq.mpr hsame)]
      by_cases h2 : 2 ≤ s.seq
      · rw [step_long hsame h2, if_pos (by unfold MAX_SEQUENCE_SIZE; omega)]
        show s.out ++ normList cs (min (s.seq + 1) 3) s.prev = _
        rw [show min (s.seq + 1) 3 = MAX_SEQUENCE_SIZE by unfold MAX_SEQUENCE_SIZE; omega]
      · rw [step_short hsame (by omega), if_neg (by unfold MAX_SEQUENCE_SIZE; omega)]
        show s.out ++ [c] ++ normList cs (min (s.seq + 1) 3) s.prev = _
        rw [show min (s.seq + 1) 3 = min s.seq 3 + 1 by omega, List.append_assoc]; rfl
    · rw [if_neg (by simpa using hsame), step_new hsame, List.append_assoc]; rfl

theorem compress_out (x : List UInt8) (hx : ∀ c ∈ x, c ≠ b64Invalid) : (compressA x).1 = collapse x := by
  show (x.foldl step {}).out = _
  rw [fold_out x {}, ← normList_eq_collapse x hx]; rfl

end Ffuzzy.DualA
