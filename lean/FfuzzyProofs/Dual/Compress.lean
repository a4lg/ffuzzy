/-
  `compress_block_hash_with_rle` on arrays (`compressBlockHash`) refines the list codec `compressA`,
  with the entries encoded as RLE bytes.
-/
import FfuzzyModel.Dual
import FfuzzyProofs.Dual.Abstract
namespace Ffuzzy.DualB
open Ffuzzy.DualA

/-- an RLE byte as an entry `(pos, len)` -/
def decodeEnt (b : UInt8) : Nat × Nat := ((Rle.decode b).1.toNat, (Rle.decode b).2.toNat)

def encodeEnt (e : Nat × Nat) : UInt8 := Rle.encode e.1.toUInt8 e.2.toUInt8

theorem enc_dec_fin : ∀ (pos : Fin 64) (l : Fin 4),
    decodeEnt (Rle.encode pos.val.toUInt8 (l.val + 1).toUInt8) = (pos.val, l.val + 1) ∧
    (1 ≤ pos.val → Rle.encode pos.val.toUInt8 (l.val + 1).toUInt8 ≠ 0) := by decide +kernel

theorem enc_dec (pos l : Nat) (hp : pos < 64) (hl1 : 1 ≤ l) (hl4 : l ≤ 4) :
    decodeEnt (encodeEnt (pos, l)) = (pos, l) ∧ (1 ≤ pos → encodeEnt (pos, l) ≠ 0) := by
  have := enc_dec_fin ⟨pos, hp⟩ ⟨l - 1, by omega⟩
  rwa [show (⟨l - 1, by omega⟩ : Fin 4).val + 1 = l from Nat.sub_add_cancel hl1] at this

/-- `enc_dec` by components, the form in which the model's loops read a decoded byte -/
theorem decode_enc (pos l : Nat) (hp : pos < 64) (hl1 : 1 ≤ l) (hl4 : l ≤ 4) :
    (Rle.decode (encodeEnt (pos, l))).1.toNat = pos ∧ (Rle.decode (encodeEnt (pos, l))).2.toNat = l :=
  ⟨congrArg Prod.fst (enc_dec pos l hp hl1 hl4).1, congrArg Prod.snd (enc_dec pos l hp hl1 hl4).1⟩

/-- decoded entries of the first `off` bytes -/
def entsOf (rle : List UInt8) (off : Nat) : List (Nat × Nat) := (rle.take off).map decodeEnt

theorem updateRleBlock_eq (rle : List UInt8) (off pos runLen : Nat) (hrun : 4 ≤ runLen)
    (hfit : off + (runLen - 4) / 4 < rle.length) :
    updateRleBlock rle off pos runLen =
      some (setSlice rle off ((chunks pos (runLen - 3)).map encodeEnt), off + (chunks pos (runLen - 3)).length) := by
  have e1 : runLen - MAX_SEQUENCE_SIZE - 1 = runLen - 4 := by unfold MAX_SEQUENCE_SIZE; omega
  have e2 : runLen - 3 - 1 = runLen - 4 := by omega
  have hk (v : UInt8) : off + (List.replicate ((runLen - 4) / 4) v).length ≤ rle.length := by
    rw [List.length_replicate]; omega
  unfold updateRleBlock
  simp only [e1, Rle.MAX_RUN_LENGTH]
  rw [if_pos hfit, fillSlice_eq_setSlice, set_eq_setSlice _ _ _ (by rw [length_setSlice _ _ _ (hk _)]; exact hfit)]
  simp only [chunks, e2, List.map_append, List.map_replicate, List.map_cons, List.map_nil, List.length_append,
    List.length_replicate, List.length_cons, List.length_nil, Nat.add_assoc]
  rw [← setSlice_setSlice _ _ _ _ (hk _), List.length_replicate, toUInt8_succ]
  rfl

theorem updateRleBlock_spec (rle : List UInt8) (off pos runLen : Nat) (hrun : 4 ≤ runLen) (hpos : pos < 64)
    (hfit : off + (runLen - 4) / 4 < rle.length) :
    ∃ rle', updateRleBlock rle off pos runLen = some (rle', off + (runLen - 4) / 4 + 1) ∧
      rle'.length = rle.length ∧
      rle'.take (off + (runLen - 4) / 4 + 1) = rle.take off ++ (chunks pos (runLen - 3)).map encodeEnt := by
  have hl : ((chunks pos (runLen - 3)).map encodeEnt).length = (runLen - 4) / 4 + 1 := by
    rw [List.length_map, chunks_length, show runLen - 3 - 1 = runLen - 4 by omega]
  have hfit' : off + ((chunks pos (runLen - 3)).map encodeEnt).length ≤ rle.length := by omega
  refine ⟨_, by rw [updateRleBlock_eq rle off pos runLen hrun hfit, ← List.length_map (f := encodeEnt), hl]; rfl,
    length_setSlice _ _ _ hfit', ?_⟩
  rw [Nat.add_assoc, ← hl, take_setSlice _ _ _ hfit']

/-- array state vs list state of the compressor: what has been written up to the two cursors -/
structure CRel (n c : Nat) (m : CompressSt) (a : St) : Prop where
  outLen : m.out.length = n
  rleLen : m.rle.length = c
  len : m.len = a.out.length
  out : m.out.take m.len = a.out
  seq : m.seq = a.seq
  prev : m.prev = a.prev
  off : m.rleOffset = a.ents.length
  rle : m.rle.take m.rleOffset = a.ents.map encodeEnt

/-- the flush of the run in progress: the expression the model evaluates where a run ends and once
    more behind the loop -/
theorem flush_spec (n c : Nat) (hc : n ≤ 4 * c) (m : CompressSt) (a : St) (p : List UInt8)
    (hr : CRel n c m a) (hi : Inv a p) (hp : p.length ≤ n) :
    ∃ rle' off', (if m.seq ≥ MAX_SEQUENCE_SIZE then updateRleBlock m.rle m.rleOffset (m.len - 1) (m.seq + 1)
        else some (m.rle, m.rleOffset)) = some (rle', off') ∧
      rle'.length = c ∧ off' = (a.ents ++ pending a).length ∧ rle'.take off' = (a.ents ++ pending a).map encodeEnt := by
  have hcnt := hi.flush.cnt
  rw [pending_eq, ← hr.seq, ← hr.len] at hcnt ⊢
  unfold MAX_SEQUENCE_SIZE
  by_cases h3 : 3 ≤ m.seq
  · rw [if_pos h3] at hcnt ⊢
    rw [List.length_append, ← hr.off, chunks_length] at hcnt
    have hfit : m.rleOffset + ((chunks (m.len - 1) (m.seq + 1 - 3)).map encodeEnt).length ≤ m.rle.length := by
      rw [List.length_map, chunks_length, hr.rleLen]; omega
    rw [if_pos h3, updateRleBlock_eq _ _ _ _ (by omega) (by rw [hr.rleLen]; omega)]
    refine ⟨_, _, rfl, by rw [length_setSlice _ _ _ hfit, hr.rleLen], by rw [List.length_append, hr.off]; rfl, ?_⟩
    rw [← List.length_map (f := encodeEnt), take_setSlice _ _ _ hfit, hr.rle, List.map_append]; rfl
  · rw [if_neg h3, if_neg h3, List.append_nil]
    exact ⟨m.rle, m.rleOffset, rfl, hr.rleLen, hr.off, hr.rle⟩

theorem compressLoop_refines (n c : Nat) (hc : n ≤ 4 * c) : ∀ (input : List UInt8) (m : CompressSt)
    (a : St) (p : List UInt8), CRel n c m a → Inv a p → (∀ x ∈ input, x ≠ b64Invalid) → p.length + input.length ≤ n →
    ∃ m', compressLoop input m = some m' ∧ CRel n c m' (input.foldl step a) := by
  intro input
  induction input with
  | nil => intro m a p hr _ _ _; exact ⟨m, rfl, hr⟩
  | cons curr rest ih =>
    intro m a p hr hi hx hlen
    rw [List.length_cons] at hlen
    have hi' := inv_step a p curr hi (hx curr List.mem_cons_self)
    have hlt : m.len < m.out.length := by have := hi.flush.length_le; rw [hr.outLen, hr.len]; omega
    have hout : (m.out.set m.len curr).take (m.len + 1) = a.out ++ [curr] := by
      rw [set_eq_setSlice _ _ _ hlt, ← hr.out]; exact take_setSlice m.out [curr] m.len hlt
    have next : ∀ m₁, CRel n c m₁ (step a curr) →
        ∃ m', compressLoop rest m₁ = some m' ∧ CRel n c m' (rest.foldl step (step a curr)) :=
      fun m₁ h₁ => ih m₁ _ (p ++ [curr]) h₁ hi' (fun x hx' => hx x (List.mem_cons_of_mem _ hx'))
        (by rw [List.length_append, List.length_singleton]; omega)
    rw [List.foldl_cons, compressLoop]
    by_cases hsame : curr = m.prev
    · rw [if_pos (beq_iff_eq.mpr hsame)]
      by_cases hseq : 2 ≤ m.seq
      · rw [if_pos (by unfold MAX_SEQUENCE_SIZE; omega)]
        apply next
        rw [step_long (hsame.trans hr.prev) (hr.seq ▸ hseq)]
        exact { hr with seq := congrArg (· + 1) hr.seq }
      · rw [if_neg (by unfold MAX_SEQUENCE_SIZE; omega)]
        apply next
        rw [step_short (hsame.trans hr.prev) (by rw [← hr.seq]; omega)]
        exact { hr with outLen := by simp [hr.outLen], len := by simp [hr.len], out := hout,
                        seq := congrArg (· + 1) hr.seq }
    · rw [if_neg (by simpa using hsame)]
      obtain ⟨rle', off', e1, e2, e3, e4⟩ := flush_spec n c hc m a p hr hi (by omega)
      rw [e1]
      apply next
      rw [step_new (fun e => hsame (e.trans hr.prev.symm))]
      exact ⟨by simp [hr.outLen], e2, by simp [hr.len], hout, rfl, rfl, e3, e4⟩

/-- `compress_block_hash_with_rle`: whatever the destination arrays held, the result is the list
    codec's output, zero padded -/
theorem compressBlockHash_spec (n c : Nat) (hn : n ≤ 64) (hc : n ≤ 4 * c) (out rle input : List UInt8)
    (hout : out.length = n) (hrle : rle.length = c) (hx : ∀ x ∈ input, x ≠ b64Invalid) (hlen : input.length ≤ n) :
    compressBlockHash out rle input =
      some (padTo (compressA input).1 n 0, padTo ((compressA input).2.map encodeEnt) c 0,
            (compressA input).1.length.toUInt8) := by
  obtain ⟨m', e1, hr⟩ := compressLoop_refines n c hc input { out := out, rle := rle } {} []
    ⟨hout, hrle, rfl, rfl, rfl, rfl, rfl, rfl⟩ inv_init hx (by simpa using hlen)
  have hi := inv_run input hx
  obtain ⟨rle', off', f1, f2, f3, f4⟩ := flush_spec n c hc m' _ input hr hi hlen
  have hoff : off' ≤ rle'.length := by
    have := congrArg List.length f4
    rw [List.length_take, List.length_map, ← f3] at this; omega
  unfold compressBlockHash
  rw [e1]
  simp only
  rw [f1]
  simp only
  rw [fillSlice_end _ _ _ (by have := hi.flush.length_le; rw [hr.outLen, hr.len]; omega), hr.out, hr.outLen,
    fillSlice_end _ _ _ hoff, f4, f2, hr.len]
  rfl

end Ffuzzy.DualB
