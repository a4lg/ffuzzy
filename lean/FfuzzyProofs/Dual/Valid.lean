/-
  `is_valid_rle_block_for_block_hash` (`isValidRleBlock`) accepts every RLE block whose
  entries pass `good`, in particular the one written by the compressor.
-/
import FfuzzyProofs.Dual.Compress
namespace Ffuzzy.DualB
open Ffuzzy.DualA

/-- the scan on a terminator: from now on only terminators may follow -/
theorem rleValidLoop_zero (bh : List UInt8) (L : UInt8) (rest : List UInt8) (expanded : Nat) (b : Bool) (pp pl : UInt8) :
    rleValidLoop bh L (0 :: rest) expanded b pp pl = rleValidLoop bh L rest expanded true pp pl := by
  have h1 : ((0 : UInt8) != Rle.TERMINATOR && b) = false := by simp [Rle.TERMINATOR]
  have h2 : ((0 : UInt8) == Rle.TERMINATOR) = true := by simp [Rle.TERMINATOR]
  rw [rleValidLoop]
  simp only [h1, h2, Bool.false_eq_true, if_false, if_true]

theorem rleValidLoop_zeros (bh : List UInt8) (L : UInt8) : ∀ (tail : List UInt8) (expanded : Nat) (b : Bool) (pp pl : UInt8),
    (∀ t ∈ tail, t = 0) → rleValidLoop bh L tail expanded b pp pl = some expanded := by
  intro tail
  induction tail with
  | nil => intro _ _ _ _ _; rfl
  | cons t ts ih =>
    intro expanded b pp pl ht
    rw [ht t List.mem_cons_self, rleValidLoop_zero]
    exact ih _ _ _ _ (fun x hx => ht x (List.mem_cons_of_mem _ hx))

/-- the scan passes an encoded entry that meets what `good` asks of the head of a list -/
theorem rleValidLoop_cons (bh : List UInt8) (L : UInt8) (hL : L.toNat ≤ bh.length) (pos l : Nat) (es : List (Nat × Nat))
    (h64 : pos < 64) (rest : List UInt8) (expanded : Nat) (pp pl : UInt8)
    (hg : good (bh.take L.toNat) ((pos, l) :: es) pp.toNat pl.toNat) :
    rleValidLoop bh L (encodeEnt (pos, l) :: rest) expanded false pp pl =
      rleValidLoop bh L rest (expanded + l) false (Rle.decode (encodeEnt (pos, l))).1 (Rle.decode (encodeEnt (pos, l))).2 := by
  obtain ⟨hge2, hlt, hord, hl1, hl4, hfull, hrun, -⟩ := hg
  obtain ⟨hp, hl⟩ := decode_enc pos l h64 hl1 hl4
  rw [List.length_take, Nat.min_eq_left hL] at hlt
  have t2 : (encodeEnt (pos, l) == Rle.TERMINATOR) = false :=
    beq_eq_false_iff_ne.mpr ((enc_dec pos l h64 hl1 hl4).2 (by omega))
  -- in range and not before the previous entry
  have c1 : ((Rle.decode (encodeEnt (pos, l))).1 < 2 || (Rle.decode (encodeEnt (pos, l))).1 ≥ L ||
      (Rle.decode (encodeEnt (pos, l))).1 < pp) = false := by
    simp only [Bool.or_eq_false_iff, decide_eq_false_iff_not, UInt8.not_lt, UInt8.not_le, ge_iff_le]
    exact ⟨⟨UInt8.le_iff_toNat_le.mpr (by rw [hp]; exact hge2), UInt8.lt_iff_toNat_lt.mpr (by rw [hp]; exact hlt)⟩,
      UInt8.le_iff_toNat_le.mpr (by rw [hp]; exact hord)⟩
  rw [rleValidLoop]
  simp only [t2, Bool.and_false, Bool.false_eq_true, if_false, c1, hl, hp]
  by_cases hsame : pp.toNat = pos
  · -- the same position: the previous entry was full
    have hpe : pp = (Rle.decode (encodeEnt (pos, l))).1 := UInt8.toNat_inj.mp (hsame.trans hp.symm)
    have hpl4 : (pl != 4) = false := bne_eq_false_iff_eq.mpr (UInt8.toNat_inj.mp (hfull hsame))
    rw [if_pos (beq_iff_eq.mpr hpe), hpl4, if_neg Bool.false_ne_true]
  · -- a new position: the three characters the entry rests on, read from the array instead of its content
    obtain ⟨k1, k2⟩ := hrun hsame
    obtain ⟨q, rfl⟩ : ∃ q, pos = q + 2 := ⟨pos - 2, by omega⟩
    have get : ∀ j (hj : j ≤ q + 2), (bh.take L.toNat).getD j 0 = bh[j]'(by omega) := fun j hj => by
      rw [List.getD_eq_getElem?_getD, List.getElem?_take, if_pos (by omega), List.getElem?_eq_getElem (by omega)]; rfl
    rw [Nat.add_sub_cancel, show q + 2 - 1 = q + 1 from rfl, get _ (Nat.le_add_right _ _), get _ (by omega)] at k1
    rw [Nat.add_sub_cancel, get _ (Nat.le_refl _), get _ (Nat.le_add_right _ _)] at k2
    have hslice : ((bh.drop (q + 2 - 2 + 1)).take (q + 2 - (q + 2 - 2))).any (· != bh.getD (q + 2 - 2) 0) = false := by
      rw [Nat.add_sub_cancel, Nat.add_sub_cancel_left, List.drop_eq_getElem_cons (by omega), List.drop_eq_getElem_cons (by omega),
        List.getD_eq_getElem?_getD, List.getElem?_eq_getElem (by omega)]
      simp only [List.take_succ_cons, List.take_zero, List.any_cons, List.any_nil, Bool.or_false, Bool.or_eq_false_iff,
        bne_eq_false_iff_eq, Option.getD_some]
      exact ⟨k1, k2⟩
    rw [if_neg (fun e => hsame (by rw [eq_of_beq e, hp])), hslice, if_neg Bool.false_ne_true]

theorem rleValidLoop_spec (bh : List UInt8) (L : UInt8) (hL : L.toNat ≤ bh.length) :
    ∀ (es : List (Nat × Nat)) (tail : List UInt8) (expanded : Nat) (pp pl : UInt8),
    good (bh.take L.toNat) es pp.toNat pl.toNat → (∀ e ∈ es, e.1 < 64) → (∀ t ∈ tail, t = 0) →
    rleValidLoop bh L (es.map encodeEnt ++ tail) expanded false pp pl = some (expanded + (es.map (·.2)).sum) := by
  intro es
  induction es with
  | nil => intro tail expanded pp pl _ _ ht; exact rleValidLoop_zeros bh L tail expanded false pp pl ht
  | cons e es ih =>
    intro tail expanded pp pl hg h64 ht
    obtain ⟨pos, l⟩ := e
    have hp64 : pos < 64 := h64 (pos, l) List.mem_cons_self
    rw [List.map_cons, List.cons_append, List.map_cons, List.sum_cons, ← Nat.add_assoc,
      rleValidLoop_cons bh L hL pos l es hp64 _ _ pp pl hg]
    obtain ⟨-, -, -, hl1, hl4, -, -, hrest⟩ := hg
    obtain ⟨hp, hl⟩ := decode_enc pos l hp64 hl1 hl4
    exact ih tail _ _ _ (by rw [hp, hl]; exact hrest) (fun e he => h64 e (List.mem_cons_of_mem _ he)) ht

theorem compressA_good (x : List UInt8) (hx : ∀ c ∈ x, c ≠ b64Invalid) : good (compressA x).1 (compressA x).2 0 0 :=
  (compressA_enc x hx).gd

theorem isValidRleBlock_enc (n c : Nat) (hn : n ≤ 64) (out : List UInt8) (es : List (Nat × Nat)) (x : List UInt8)
    (h : Enc out es x) (hx : x.length ≤ n) :
    isValidRleBlock (padTo out n 0) (padTo (es.map encodeEnt) c 0) out.length.toUInt8 = true := by
  have hol := h.length_le
  have hLn : out.length.toUInt8.toNat = out.length := toNat_toUInt8 _ (by omega)
  have hpl : (padTo out n 0).length = n := length_padTo 0 (by omega)
  have hspec := rleValidLoop_spec (padTo out n 0) out.length.toUInt8 (by rw [hLn, hpl]; omega) es
    (List.replicate (c - (es.map encodeEnt).length) 0) out.length.toUInt8.toNat 0 0
    (by rw [hLn, take_padTo]; exact h.gd) (fun e he => by have := h.lt e he; omega)
    (fun t ht => (List.mem_replicate.mp ht).2)
  have hpad : padTo (es.map encodeEnt) c 0 = es.map encodeEnt ++ List.replicate (c - (es.map encodeEnt).length) 0 := rfl
  rw [isValidRleBlock, hpad, hspec, hLn, h.length, hpl]
  simpa using hx

end Ffuzzy.DualB
