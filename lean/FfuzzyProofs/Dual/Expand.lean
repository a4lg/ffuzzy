/-
  `expand_block_hash_using_rle` on arrays (`expandBlockHash`) computes the list expansion `expandA`.
-/
import FfuzzyProofs.Dual.Compress
namespace Ffuzzy.DualB
open Ffuzzy.DualA

/-- model state vs the state `(src, acc)` of the list expansion: `acc` is written, the content is read up
    to `src`, and `lenOut` counts the content plus the characters added so far -/
structure XRel (n L : Nat) (s : ExpandSt) (src : Nat) (acc : List UInt8) : Prop where
  outLen : s.out.length = n
  dst : s.offsetDst = acc.length
  acc : s.out.take s.offsetDst = acc
  src : s.offsetSrc = src
  bal : s.lenOut + s.offsetSrc = L + s.offsetDst

/-- what `expand_block_hash_using_rle` does behind its loop, as a function of the loop's final state: the
    rest of the content is copied, and the array is cleared behind it -/
def finalCopy (inp : List UInt8) (s : ExpandSt) : List UInt8 × UInt8 :=
  let copyLen := s.lenOut - s.offsetDst
  let o := setSlice s.out s.offsetDst ((inp.drop s.offsetSrc).take copyLen)
  (fillSlice o (s.offsetDst + copyLen) o.length 0, s.lenOut.toUInt8)

theorem expandBlockHash_eq (out inp : List UInt8) (lenIn : UInt8) (rle : List UInt8) :
    expandBlockHash out inp lenIn rle = finalCopy inp (expandLoop inp rle { out := out, lenOut := lenIn.toNat }) := rfl

theorem expandLoop_zero (inp rest : List UInt8) (s : ExpandSt) : expandLoop inp (0 :: rest) s = s := by
  have hz : (Rle.decode 0).1 = 0 := by decide
  rw [expandLoop]
  simp only [hz, beq_self_eq_true, if_true]

theorem expandLoop_enc (inp : List UInt8) (pos l : Nat) (h1 : 1 ≤ pos) (hp : pos < 64) (hl1 : 1 ≤ l) (hl4 : l ≤ 4)
    (rest : List UInt8) (s : ExpandSt) :
    expandLoop inp (encodeEnt (pos, l) :: rest) s =
      expandLoop inp rest
        { out := fillSlice (setSlice s.out s.offsetDst ((inp.drop s.offsetSrc).take (pos - s.offsetSrc)))
            (s.offsetDst + (pos - s.offsetSrc)) (s.offsetDst + (pos - s.offsetSrc) + l) (inp.getD pos 0),
          offsetSrc := s.offsetSrc + (pos - s.offsetSrc), offsetDst := s.offsetDst + (pos - s.offsetSrc) + l,
          lenOut := s.lenOut + l } := by
  obtain ⟨e1, e2⟩ := decode_enc pos l hp hl1 hl4
  have hnz : ((Rle.decode (encodeEnt (pos, l))).1 == 0) = false := by
    rw [beq_eq_false_iff_ne]
    intro e
    rw [e] at e1
    exact absurd e1 (Nat.ne_of_lt h1)
  rw [expandLoop]
  simp only [hnz, Bool.false_eq_true, if_false, e1, e2]

theorem finalCopy_of_xrel (n L : Nat) (inp content : List UInt8) (hcont : content = inp.take L) (hL : L ≤ inp.length)
    (s : ExpandSt) (src : Nat) (acc : List UInt8) (hr : XRel n L s src acc) (hsrc : src ≤ L)
    (hfit : (acc ++ content.drop src).length ≤ n) :
    finalCopy inp s = (padTo (acc ++ content.drop src) n 0, (acc ++ content.drop src).length.toUInt8) := by
  obtain ⟨hs, hd, hb⟩ : s.offsetSrc = src ∧ s.offsetDst = acc.length ∧ _ := ⟨hr.src, hr.dst, hr.bal⟩
  have hcopy : s.lenOut - s.offsetDst = L - src := by omega
  have hslice : (inp.drop s.offsetSrc).take (s.lenOut - s.offsetDst) = content.drop src := by
    rw [hcopy, hs, hcont, List.drop_take]
  have hcl : (content.drop src).length = L - src := by
    rw [hcont, List.length_drop, List.length_take, Nat.min_eq_left hL]
  have hfit' : s.offsetDst + (content.drop src).length ≤ s.out.length := by
    rw [hr.outLen, hd, ← List.length_append]; exact hfit
  have hlen : s.lenOut = (acc ++ content.drop src).length := by rw [List.length_append, hcl]; omega
  have hend : s.offsetDst + (s.lenOut - s.offsetDst) = s.offsetDst + (content.drop src).length := by omega
  have hout : (setSlice s.out s.offsetDst (content.drop src)).length = n :=
    (length_setSlice _ _ _ hfit').trans hr.outLen
  show (fillSlice (setSlice s.out s.offsetDst ((inp.drop s.offsetSrc).take (s.lenOut - s.offsetDst)))
    (s.offsetDst + (s.lenOut - s.offsetDst)) _ 0, s.lenOut.toUInt8) = _
  rw [hslice, hend, fillSlice_end _ _ _ (by rw [hout, hd, ← List.length_append]; exact hfit), hout,
    take_setSlice _ _ _ hfit', hr.acc, hlen]

theorem expandLoop_spec (n L : Nat) (inp content : List UInt8) (hcont : content = inp.take L) (hL : L ≤ inp.length) :
    ∀ (es : List (Nat × Nat)) (tail : List UInt8) (s : ExpandSt) (src : Nat) (acc : List UInt8),
    XRel n L s src acc → (∀ e ∈ es, 1 ≤ e.1 ∧ e.1 < L ∧ e.1 < 64 ∧ 1 ≤ e.2 ∧ e.2 ≤ 4) →
    List.Pairwise (fun a b : Nat × Nat => a.1 ≤ b.1) es → (∀ e ∈ es, src ≤ e.1) →
    (∀ t ∈ tail, t = 0) → src ≤ L → (expandGo content es src acc).length ≤ n →
    finalCopy inp (expandLoop inp (es.map encodeEnt ++ tail) s) =
      (padTo (expandGo content es src acc) n 0, (expandGo content es src acc).length.toUInt8) := by
  intro es
  induction es with
  | nil =>
    intro tail s src acc hr _ _ _ ht hsrc hfit
    have hs : expandLoop inp ([].map encodeEnt ++ tail) s = s := by
      cases tail with
      | nil => rfl
      | cons t ts => rw [ht t List.mem_cons_self, List.map_nil, List.nil_append, expandLoop_zero]
    rw [hs]
    exact finalCopy_of_xrel n L inp content hcont hL s src acc hr hsrc hfit
  | cons e es ih =>
    intro tail s src acc hr hwf hsort hge ht hsrc hfit
    obtain ⟨pos, l⟩ := e
    obtain ⟨w1, w2, w3, w4, w5⟩ := hwf (pos, l) List.mem_cons_self
    obtain ⟨hsrc', hdst⟩ : s.offsetSrc = src ∧ s.offsetDst = acc.length := ⟨hr.src, hr.dst⟩
    have hsp : src ≤ pos := hge (pos, l) List.mem_cons_self
    -- what one iteration reads from `inp` is what the list expansion reads from `content`
    have hcopy : (inp.drop src).take (pos - src) = (content.drop src).take (pos - src) := by
      rw [hcont, List.drop_take, List.take_take, Nat.min_eq_left (by omega)]
    have hget : inp.getD pos 0 = content.getD pos 0 := by
      rw [hcont, List.getD_eq_getElem?_getD, List.getD_eq_getElem?_getD, List.getElem?_take, if_pos w2]
    have hclen : ((content.drop src).take (pos - src)).length = pos - src := by
      rw [hcont, List.length_take, List.length_drop, List.length_take]; omega
    rw [expandGo] at hfit ⊢
    rw [List.map_cons, List.cons_append, expandLoop_enc inp pos l w1 w3 w4 w5, hsrc', hcopy, hget]
    generalize (content.drop src).take (pos - src) = cp at hclen hfit ⊢
    have hmono := length_le_expandGo content es pos (acc ++ cp ++ List.replicate l (content.getD pos 0))
    simp only [List.length_append, List.length_replicate] at hmono
    have hfit1 : s.offsetDst + (cp ++ List.replicate l (content.getD pos 0)).length ≤ s.out.length := by
      rw [List.length_append, List.length_replicate, hr.outLen, hdst]; omega
    -- the two writes of the iteration are one write at the cursor
    rw [← hclen, fillSlice_eq_setSlice, setSlice_setSlice _ _ _ _ (by rw [List.length_append] at hfit1; omega)]
    have hsort' := List.pairwise_cons.mp hsort
    refine ih tail _ _ _ ⟨?_, ?_, ?_, ?_, ?_⟩ (fun e he => hwf e (List.mem_cons_of_mem _ he)) hsort'.2 hsort'.1 ht
      (Nat.le_of_lt w2) hfit
    · exact (length_setSlice _ _ _ hfit1).trans hr.outLen
    · show s.offsetDst + cp.length + l = _
      simp only [List.length_append, List.length_replicate, hdst]
    · show (setSlice s.out s.offsetDst _).take (s.offsetDst + cp.length + l) = _
      have := take_setSlice _ _ _ hfit1
      rw [List.length_append, List.length_replicate, ← Nat.add_assoc] at this
      rw [this, hr.acc, List.append_assoc]
    · show src + cp.length = pos
      omega
    · show s.lenOut + l + (src + cp.length) = L + (s.offsetDst + cp.length + l)
      have := hr.bal
      omega

/-- `expand_block_hash_using_rle`: whatever the destination held, the result is the list
    expansion, zero padded -/
theorem expandBlockHash_spec (n c : Nat) (out content : List UInt8) (ents : List (Nat × Nat))
    (hout : out.length = n) (hL : content.length ≤ n) (h255 : n ≤ 255) (hc : ents.length ≤ c)
    (hwf : ∀ e ∈ ents, 1 ≤ e.1 ∧ e.1 < content.length ∧ e.1 < 64 ∧ 1 ≤ e.2 ∧ e.2 ≤ 4)
    (hsort : List.Pairwise (fun a b : Nat × Nat => a.1 ≤ b.1) ents)
    (hfit : (expandA content ents).length ≤ n) :
    expandBlockHash out (padTo content n 0) content.length.toUInt8 (padTo (ents.map encodeEnt) c 0) =
      (padTo (expandA content ents) n 0, (expandA content ents).length.toUInt8) := by
  rw [expandBlockHash_eq, toNat_toUInt8 _ (Nat.le_trans hL h255)]
  exact expandLoop_spec n content.length (padTo content n 0) content (take_padTo content n 0).symm
    (by rw [length_padTo 0 hL]; exact hL)
    ents (List.replicate (c - (ents.map encodeEnt).length) 0) { out := out, lenOut := content.length } 0 []
    ⟨hout, rfl, List.take_zero, rfl, rfl⟩ hwf hsort (fun _ _ => Nat.zero_le _)
    (fun t ht => (List.mem_replicate.mp ht).2) (Nat.zero_le _) hfit

end Ffuzzy.DualB
