/-
  Numeric / index windows (hash/block.rs): each numeric window is the base-64 number of the
  corresponding 7-symbol slice; the encoding is injective; index windows add the block size.
-/
import FfuzzyModel.Compare
import FfuzzyProofs.Bits
import FfuzzyProofs.Digits
import FfuzzyProofs.ListLemmas
namespace Ffuzzy.Windows

/-- base-64 number of a symbol string, most significant first -/
def enc (w : List UInt8) : Nat := w.foldl (fun acc v => acc * 64 + v.toNat) 0

theorem enc_snoc (w : List UInt8) (v : UInt8) : enc (w ++ [v]) = enc w * 64 + v.toNat := by
  rw [enc, List.foldl_append]; rfl

theorem enc_cons (x : UInt8) (w : List UInt8) : enc (x :: w) = x.toNat * 64 ^ w.length + enc w := by
  rw [enc, List.foldl_cons, List.foldl_digits, Nat.zero_mul, Nat.zero_add]; rfl

theorem enc_append (a b : List UInt8) : enc (a ++ b) = enc a * 64 ^ b.length + enc b := by
  rw [enc, List.foldl_append, List.foldl_digits]; rfl

theorem enc_lt (w : List UInt8) (h : ∀ x ∈ w, x.toNat < 64) : enc w < 64 ^ w.length := by
  have := List.foldl_digits_lt 64 UInt8.toNat w h 0
  rwa [Nat.zero_add, Nat.one_mul] at this

theorem enc_inj : ∀ (a b : List UInt8), a.length = b.length → (∀ x ∈ a, x.toNat < 64) → (∀ x ∈ b, x.toNat < 64) →
    enc a = enc b → a = b :=
  fun a b hl ha hb he => (List.foldl_digits_inj 64 UInt8.toNat (fun _ _ => UInt8.toNat_inj.mp) a b 0 0 hl ha hb he).2

theorem enc_lt7 (w : List UInt8) (hw : w.length ≤ 7) (hs : ∀ x ∈ w, x.toNat < 64) : enc w < 2 ^ 42 :=
  Nat.lt_of_lt_of_le (enc_lt w hs) (Nat.pow_le_pow_right (by decide) hw : 64 ^ w.length ≤ 64 ^ 7)

theorem enc_mod (a b : List UInt8) (hb : b.length = 7) (hs : ∀ x ∈ b, x.toNat < 64) :
    enc (a ++ b) % 2 ^ 42 = enc b := by
  rw [enc_append, hb]
  exact Nat.mul_add_mod_of_lt (enc_lt7 b (Nat.le_of_eq hb) hs)

theorem step_ofNat (x : Nat) (v : UInt8) (hv : v.toNat < 64) :
    ((BitVec.ofNat 64 x <<< 6) ||| BitVec.ofNat 64 v.toNat) &&& ((1 : BitVec 64) <<< 42) - 1 =
      BitVec.ofNat 64 ((x * 64 + v.toNat) % 2 ^ 42) := by
  rw [Bits.ofNat_shl_or x v.toNat 6 hv, ← Nat.and_two_pow_sub_one_eq_mod, BitVec.ofNat_and]
  rfl

theorem windowLoop_spec : ∀ (rest p : List UInt8), (∀ x ∈ rest, x.toNat < 64) →
    numericWindowsLoop rest (BitVec.ofNat 64 (enc p % 2 ^ 42)) =
      (List.range rest.length).map (fun t => BitVec.ofNat 64 (enc (p ++ rest.take (t + 1)) % 2 ^ 42)) := by
  intro rest
  induction rest with
  | nil => intro p _; rfl
  | cons v rest ih =>
    intro p hs
    have hn : (enc p % 2 ^ 42 * 64 + v.toNat) % 2 ^ 42 = enc (p ++ [v]) % 2 ^ 42 := by
      rw [enc_snoc, Nat.add_mod, Nat.mod_mul_mod, ← Nat.add_mod]
    rw [numericWindowsLoop, step_ofNat _ v (hs v List.mem_cons_self), hn,
      ih (p ++ [v]) (fun x hx => hs x (List.mem_cons_of_mem _ hx)),
      List.length_cons, List.range_succ_eq_map, List.map_cons, List.map_map]
    simp only [List.take_succ_cons, List.take_zero, List.append_assoc, List.singleton_append, Function.comp_def]

theorem windowInit_spec : ∀ (w : List UInt8) (i : Nat) (acc : BitVec 64), i + w.length = 6 → (∀ x ∈ w, x.toNat < 64) →
    (w.zipIdx i).foldl (fun acc (p : UInt8 × Nat) => acc ||| (BitVec.ofNat 64 p.1.toNat <<< (6 * (5 - p.2)))) acc =
      acc ||| BitVec.ofNat 64 (enc w)
  | [], _, acc, _, _ => (BitVec.or_zero).symm
  | v :: rest, i, acc, hi, hs => by
    have hr : enc rest < 2 ^ (6 * (5 - i)) := by
      have := enc_lt rest (fun x hx => hs x (List.mem_cons_of_mem _ hx))
      rwa [show 5 - i = rest.length by simp at hi; omega, Nat.pow_mul]
    rw [List.zipIdx_cons, List.foldl_cons, windowInit_spec rest (i + 1) _ (by simp at hi ⊢; omega)
      (fun x hx => hs x (List.mem_cons_of_mem _ hx)), BitVec.or_assoc, Bits.ofNat_shl_or _ _ _ hr, enc_cons,
      Nat.pow_mul, show 5 - i = rest.length by simp at hi; omega]

/-- **numeric windows.** the `t`-th value is the base-64 number of the slice `bh[t .. t+7]` -/
theorem numericWindows_spec (bh : List UInt8) (hs : ∀ x ∈ bh, x.toNat < 64) :
    numericWindows bh =
      (List.range (bh.length - 6)).map (fun t => BitVec.ofNat 64 (enc ((bh.drop t).take 7))) := by
  unfold numericWindows MIN_LCS_FOR_COMPARISON
  by_cases hl : bh.length < 7
  · rw [if_pos hl, show bh.length - 6 = 0 by omega]; rfl
  have h6 : (bh.take 6).length = 6 := by rw [List.length_take]; omega
  have hs6 : ∀ x ∈ bh.take 6, x.toNat < 64 := fun x hx => hs x (List.mem_of_mem_take hx)
  have hsRest : ∀ x ∈ bh.drop 6, x.toNat < 64 := fun x hx => hs x (List.mem_of_mem_drop hx)
  have hinit : 0 ||| BitVec.ofNat 64 (enc (bh.take 6)) = BitVec.ofNat 64 (enc (bh.take 6) % 2 ^ 42) := by
    rw [Nat.mod_eq_of_lt (enc_lt7 _ (by omega) hs6)]
    exact BitVec.zero_or
  rw [if_neg hl, windowInit_spec (bh.take 6) 0 0 (by omega) hs6, hinit, windowLoop_spec _ _ hsRest, List.length_drop]
  apply List.map_congr_left
  intro t ht
  have ht6 : t < bh.length - 6 := List.mem_range.mp ht
  -- the first `t + 7` symbols end with the slice
  have hsplit : bh.take 6 ++ (bh.drop 6).take (t + 1) = bh.take t ++ (bh.drop t).take 7 := by
    have e1 : bh.take 6 ++ (bh.drop 6).take (t + 1) = bh.take (t + 7) := by
      rw [← List.take_add, show 6 + (t + 1) = t + 7 by omega]
    rw [e1, List.take_add]
  have hlen7 : ((bh.drop t).take 7).length = 7 := by
    rw [List.length_take, List.length_drop]
    omega
  have hsSlice : ∀ x ∈ (bh.drop t).take 7, x.toNat < 64 :=
    fun x hx => hs x (List.mem_of_mem_drop (List.mem_of_mem_take hx))
  rw [hsplit, enc_mod _ _ hlen7 hsSlice]

theorem windows7_spec (l : List UInt8) :
    windows7 l = (List.range (l.length - 6)).map (fun t => (l.drop t).take 7) := by
  induction l with
  | nil => rfl
  | cons x xs ih =>
    rw [windows7]
    by_cases h : (x :: xs).length < 7
    · rw [if_pos h]
      have : (x :: xs).length - 6 = 0 := by omega
      rw [this]; rfl
    · rw [if_neg h, ih]
      have hl : (x :: xs).length - 6 = (xs.length - 6) + 1 := by simp at h ⊢; omega
      rw [hl, List.range_succ_eq_map, List.map_cons, List.map_map]
      congr 1

theorem numericWindows_eq_windows7 (bh : List UInt8) (hs : ∀ x ∈ bh, x.toNat < 64) :
    numericWindows bh = (windows7 bh).map (fun w => BitVec.ofNat 64 (enc w)) := by
  rw [numericWindows_spec bh hs, windows7_spec, List.map_map]
  rfl

/-- an index window as a number: the block-size index above the 42 bits of the slice value -/
theorem index_toNat (s : List UInt8) (k : UInt8) (h7 : s.length ≤ 7) (hs : ∀ x ∈ s, x.toNat < 64) (hk : k.toNat < 32) :
    (BitVec.ofNat 64 (enc s) ||| (BitVec.ofNat 64 k.toNat <<< 42)).toNat = k.toNat * 2 ^ 42 + enc s := by
  have := enc_lt7 s h7 hs
  rw [BitVec.or_comm, Bits.ofNat_shl_or _ _ _ this, BitVec.toNat_ofNat, Nat.mod_eq_of_lt (by omega)]

/-- **index windows.** two index-window sets intersect exactly when the block sizes agree and the
    block hashes share a 7-symbol substring: the pre-filter neither loses nor invents a match -/
theorem index_inter_iff (a b : List UInt8) (ka kb : UInt8) (ha : ∀ x ∈ a, x.toNat < 64) (hb : ∀ x ∈ b, x.toNat < 64)
    (hka : ka.toNat < 32) (hkb : kb.toNat < 32) :
    (∃ x, x ∈ indexWindows a ka ∧ x ∈ indexWindows b kb) ↔
      (ka = kb ∧ ∃ i j, i + 7 ≤ a.length ∧ j + 7 ≤ b.length ∧ ∀ t, t < 7 → a[i + t]? = b[j + t]?) := by
  unfold indexWindows
  rw [numericWindows_spec a ha, numericWindows_spec b hb]
  simp only [List.map_map, List.mem_map, List.mem_range, Function.comp]
  have hsym : ∀ (l : List UInt8) (t : Nat), (∀ x ∈ l, x.toNat < 64) → ∀ x ∈ (l.drop t).take 7, x.toNat < 64 :=
    fun l t hl x hx => hl x (List.mem_of_mem_drop (List.mem_of_mem_take hx))
  have hlen : ∀ (l : List UInt8) (t : Nat), t < l.length - 6 → ((l.drop t).take 7).length = 7 := fun l t ht => by
    rw [List.length_take, List.length_drop]; omega
  constructor
  · rintro ⟨x, ⟨i, hi, rfl⟩, ⟨j, hj, he⟩⟩
    have hn := congrArg BitVec.toNat he
    rw [index_toNat _ ka (List.length_take_le ..) (hsym a i ha) hka,
      index_toNat _ kb (List.length_take_le ..) (hsym b j hb) hkb] at hn
    have la := enc_lt7 _ (List.length_take_le ..) (hsym a i ha)
    have lb := enc_lt7 _ (List.length_take_le ..) (hsym b j hb)
    have hs := enc_inj ((a.drop i).take 7) ((b.drop j).take 7)
      (by rw [hlen a i hi, hlen b j hj]) (hsym a i ha) (hsym b j hb) (by omega)
    exact ⟨UInt8.toNat_inj.mp (by omega), i, j, by omega, by omega, (take_drop_eq_iff a b i j 7).mp hs⟩
  · rintro ⟨hk, i, j, hi, hj, h⟩
    refine ⟨_, ⟨i, by omega, rfl⟩, ⟨j, by omega, ?_⟩⟩
    rw [(take_drop_eq_iff a b i j 7).mpr h, hk]

end Ffuzzy.Windows
