/-
  Glue between the field parsers and the reference grammar: `b64Index` / `b64Char` as a bijection,
  run collapsing under an injective map, the loop output as the decoded (and, for normalising
  types, run-collapsed) base64 prefix, which is what the grammar decodes the field to (`refBh`), and the
  capacity conditions of parser and grammar.
-/
import FfuzzyProofs.ParseBh
import FfuzzyProofs.ParseBs
namespace Ffuzzy.ParseField
open Ffuzzy.Spec Ffuzzy.Collapse Ffuzzy.ParseBh

theorem b64_bij : ∀ c : UInt8,
    (isB64 c = true → b64Char (b64Index c) = c ∧ b64Index c < 64) ∧
    (c < 64 → isB64 (b64Char c) = true ∧ b64Index (b64Char c) = c) :=
  UInt8.forall_of_fin (by decide +kernel)

theorem b64_roundtrip (c : UInt8) (h : isB64 c = true) : b64Char (b64Index c) = c ∧ b64Index c < 64 :=
  (b64_bij c).1 h

theorem b64Char_valid (s : UInt8) (hs : s < 64) : isB64 (b64Char s) = true ∧ b64Index (b64Char s) = s :=
  (b64_bij s).2 hs

theorem b64Index_inj (a b : UInt8) (ha : isB64 a = true) (hb : isB64 b = true) (h : b64Index a = b64Index b) : a = b := by
  rw [← (b64_roundtrip a ha).1, ← (b64_roundtrip b hb).1, h]

theorem map_b64Char_b64Index (x : List UInt8) (hx : ∀ c ∈ x, isB64 c = true) : (x.map b64Index).map b64Char = x := by
  rw [List.map_map]
  exact (List.map_congr_left fun c hc => (b64_roundtrip c (hx c hc)).1).trans (List.map_id x)

theorem map_b64Index_b64Char (y : List UInt8) (hy : ∀ s ∈ y, s < 64) : (y.map b64Char).map b64Index = y := by
  rw [List.map_map]
  exact (List.map_congr_left fun s hs => (b64Char_valid s (hy s hs)).2).trans (List.map_id y)

/-- `collapse` only compares elements, so it commutes with a map that is injective where it is applied -/
theorem collapseAux_map (f : UInt8 → UInt8) (S : UInt8 → Prop) (hinj : ∀ a b, S a → S b → f a = f b → a = b) :
    ∀ (xs : List UInt8) (prev : Option UInt8) (run : Nat), (∀ a ∈ xs, S a) → (∀ p, prev = some p → S p) →
    collapseAux (xs.map f) (prev.map f) run = (collapseAux xs prev run).map f := by
  intro xs
  induction xs with
  | nil => intro _ _ _ _; rfl
  | cons x xs ih =>
    intro prev run hx hp
    have hxs : ∀ a ∈ xs, S a := fun a ha => hx a (List.mem_cons_of_mem _ ha)
    have hsx : ∀ p, some x = some p → S p := fun p h => Option.some.inj h ▸ hx x (List.mem_cons_self ..)
    have hc : prev.map f = some (f x) ↔ prev = some x := by
      cases prev with
      | none => exact ⟨nofun, nofun⟩
      | some p =>
        exact ⟨fun h => congrArg some (hinj p x (hp p rfl) (hsx x rfl) (Option.some.inj h)), fun h => h ▸ rfl⟩
    simp only [List.map_cons, collapseAux, hc]
    split
    · split
      · exact ih prev run hxs hp
      · rw [List.map_cons, ih prev (run + 1) hxs hp]
    · rw [List.map_cons]; exact congrArg _ (ih (some x) 1 hxs hsx)

theorem collapse_map (f : UInt8 → UInt8) (xs : List UInt8) (hinj : ∀ a ∈ xs, ∀ b ∈ xs, f a = f b → a = b) :
    collapse (xs.map f) = (collapse xs).map f :=
  collapseAux_map f (· ∈ xs) (fun a b ha hb => hinj a ha b hb) xs none 0 (fun _ h => h) nofun

/-- what the reference grammar decodes a block-hash field to -/
def refBh (nm : Bool) (bytes : List UInt8) : List UInt8 := (if nm then collapse (pre bytes) else pre bytes).map b64Index

theorem refBh_true (bytes : List UInt8) : refBh true bytes = collapse (refBh false bytes) :=
  (collapse_map b64Index (pre bytes) fun a ha b hb => b64Index_inj a b (pre_all bytes a ha) (pre_all bytes b hb)).symm

theorem outOf_eq_ref (nm : Bool) (bytes : List UInt8) : outOf nm bytes 0 b64Invalid = refBh nm bytes := by
  cases nm with
  | false => rfl
  | true => exact (normList_eq_collapse _ (pre_ne_invalid bytes)).trans (refBh_true bytes).symm

theorem fits_of_length_le (cfg : Cfg) (norm dual : Bool) (cap : Nat) (x : List UInt8) (h : x.length ≤ cap) :
    fits cfg norm dual cap x = true := by
  unfold fits
  split
  · exact decide_eq_true (Nat.le_trans (collapse_length_le x) h)
  · exact decide_eq_true h

/-- the reference capacity test is the test on the raw length, except for normalising types under the
    default parser -/
theorem length_le_of_fits (cfg : Cfg) (norm dual : Bool) (cap : Nat) (x : List UInt8)
    (hraw : (norm && !dual && !cfg.strictParser) = false) (h : fits cfg norm dual cap x = true) : x.length ≤ cap := by
  unfold fits at h
  rw [hraw] at h
  exact of_decide_eq_true h

/-- `fitsF` is the capacity condition the field parser tests, `Spec.fits` the one the grammar asks of the base64
    prefix. `hd` ties the parser's flags to the grammar's `dual` in the only combinations the types use:
    `limitRaw` is set exactly for the dual types, and dual types normalise. -/
theorem fits_iff (cfg : Cfg) (n : Nat) (nm lr dual : Bool) (bytes : List UInt8)
    (hd : (dual = true → nm = true ∧ lr = true) ∧ (dual = false → lr = false)) :
    fitsF cfg n nm lr bytes ↔ fits cfg nm dual n (pre bytes) = true := by
  unfold fitsF fits
  have hle := outOf_length_le nm bytes 0 b64Invalid
  have hout := outOf_eq_ref nm bytes
  cases hs : cfg.strictParser
  · simp only [Bool.false_eq_true, if_false, Bool.not_false, Bool.and_true]
    cases dual
    · have := hd.2 rfl
      subst this
      simp only [Bool.false_eq_true, false_imp_iff, and_true, Bool.not_false, Bool.and_true]
      rw [hout]
      cases nm <;> simp [refBh]
    · obtain ⟨h1, h2⟩ := hd.1 rfl
      subst h1; subst h2
      simp only [Bool.not_true, Bool.and_false, Bool.false_eq_true, if_false, forall_const, decide_eq_true_eq]
      constructor
      · intro h; exact h.2
      · intro h; exact ⟨by omega, h⟩
  · simp

/-- collapsing keeps symbols (`sym` as in `FH.BhValid.sym`) symbols -/
theorem collapse_sym (xs : List UInt8) (h : ∀ x ∈ xs, x < 64) : ∀ x ∈ collapse xs, x < 64 :=
  fun x hx => h x (collapse_mem xs x hx)

end Ffuzzy.ParseField
