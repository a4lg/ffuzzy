/-
  The score laws of C10 at specification level (hence the namespace `C10`): the specified score `Spec.score` and
  the specified candidate relation `candSpec` on each of the four relations of the two block sizes, and the laws
  that follow (range, symmetry, identity, far sizes, non-zero exactly on candidates).
-/
import FfuzzyProofs.Properties.C09
import FfuzzyProofs.Properties.C20
namespace Ffuzzy.C10
open Ffuzzy.Spec

theorem common7_comm (a b : List UInt8) : common7 a b = common7 b a :=
  Bool.eq_iff_iff.mpr
    (((C09.common7_iff a b).trans ⟨C09.Common7.symm, C09.Common7.symm⟩).trans (C09.common7_iff b a).symm)

theorem common7_lcs (a b : List UInt8) (h : C09.Common7 a b) : 7 ≤ lcs a b := by
  obtain ⟨i, j, hi, hj, he⟩ := h
  have hw := (take_drop_eq_iff a b i j 7).mpr he
  have s1 : ((a.drop i).take 7).Sublist a := (List.take_sublist _ _).trans (List.drop_sublist _ _)
  have s2 : ((a.drop i).take 7).Sublist b := by rw [hw]; exact (List.take_sublist _ _).trans (List.drop_sublist _ _)
  have := sublist_length_le_lcs a b _ s1 s2
  simp only [List.length_take, List.length_drop] at this
  omega

theorem scorePair_symm (x y : List UInt8) (k : Nat) : scorePair x y k = scorePair y x k := by
  unfold scorePair scorePairWith
  rw [common7_comm x y, editDistance_comm x y, Nat.add_comm x.length y.length, Nat.min_comm x.length y.length]

theorem scorePair_le (x y : List UInt8) (k : Nat) : scorePair x y k ≤ 100 := by
  unfold scorePair scorePairWith
  simp only
  split
  · omega
  · split
    · exact Nat.le_trans (Nat.min_le_left _ _) (Nat.sub_le _ _)
    · exact Nat.sub_le _ _

theorem scorePair_zero (x y : List UInt8) (k : Nat) (h : common7 x y = false) : scorePair x y k = 0 := by
  unfold scorePair scorePairWith; simp [h]

theorem scorePair_pos (x y : List UInt8) (k : Nat) (h : common7 x y = true) : 1 ≤ scorePair x y k := by
  have hc := (C09.common7_iff x y).mp h
  have hl := common7_lcs x y hc
  obtain ⟨i, j, h1, h2, _⟩ := hc
  have l1 := lcs_le_left x y
  have l2 := lcs_le_right x y
  unfold scorePair scorePairWith editDistance
  simp only [h, Bool.not_true, Bool.false_eq_true, if_false]
  have hraw := C20.raw_pos (d := x.length + y.length - 2 * lcs x y) (n := x.length + y.length) (by omega)
  split
  · have : min x.length y.length ≤ 2 ^ k * min x.length y.length := Nat.le_mul_of_pos_left _ (Nat.two_pow_pos k)
    omega
  · exact hraw

theorem scorePair_ne_zero_iff (x y : List UInt8) (k : Nat) : scorePair x y k ≠ 0 ↔ common7 x y = true := by
  cases h : common7 x y
  · simp [scorePair_zero x y k h]
  · have := scorePair_pos x y k h
    simp; omega

theorem near_cases (ka kb : Nat) : ka = kb ∨ ka + 1 = kb ∨ ka = kb + 1 ∨ (ka + 1 < kb ∨ kb + 1 < ka) := by omega

theorem score_same (k : Nat) (a1 a2 b1 b2 : List UInt8) :
    score k a1 a2 k b1 b2 =
      if a1 = b1 ∧ a2 = b2 then 100 else max (scorePair a1 b1 k) (scorePair a2 b2 (k + 1)) := by
  unfold score scoreWith
  simp only [true_and, if_true]
  rfl

theorem score_succ (k : Nat) (a1 a2 b1 b2 : List UInt8) :
    score k a1 a2 (k + 1) b1 b2 = scorePair a2 b1 (k + 1) := by
  unfold score scoreWith
  rw [if_neg (by omega), if_neg (by omega), if_pos rfl]
  rfl

theorem score_pred (k : Nat) (a1 a2 b1 b2 : List UInt8) :
    score (k + 1) a1 a2 k b1 b2 = scorePair a1 b2 (k + 1) := by
  unfold score scoreWith
  rw [if_neg (by omega), if_neg (by omega), if_neg (by omega), if_pos rfl]
  rfl

/-- **C10 (far block sizes).** the score is 0 when the block sizes differ by more than a factor of two -/
theorem score_far (ka : Nat) (a1 a2 : List UInt8) (kb : Nat) (b1 b2 : List UInt8)
    (h : ka + 1 < kb ∨ kb + 1 < ka) : score ka a1 a2 kb b1 b2 = 0 := by
  unfold score scoreWith
  rw [if_neg (by omega), if_neg (by omega), if_neg (by omega), if_neg (by omega)]

/-- the candidate relation the pre-filter implements, on the specification level -/
def candSpec (ka : Nat) (a1 a2 : List UInt8) (kb : Nat) (b1 b2 : List UInt8) : Bool :=
  if ka = kb then common7 a1 b1 || common7 a2 b2
  else if ka + 1 = kb then common7 a2 b1
  else if ka = kb + 1 then common7 a1 b2
  else false

theorem candSpec_same (k : Nat) (a1 a2 b1 b2 : List UInt8) :
    candSpec k a1 a2 k b1 b2 = (common7 a1 b1 || common7 a2 b2) := if_pos rfl

theorem candSpec_succ (k : Nat) (a1 a2 b1 b2 : List UInt8) : candSpec k a1 a2 (k + 1) b1 b2 = common7 a2 b1 := by
  unfold candSpec; rw [if_neg (by omega), if_pos rfl]

theorem candSpec_pred (k : Nat) (a1 a2 b1 b2 : List UInt8) : candSpec (k + 1) a1 a2 k b1 b2 = common7 a1 b2 := by
  unfold candSpec; rw [if_neg (by omega), if_neg (by omega), if_pos rfl]

theorem candSpec_far (ka : Nat) (a1 a2 : List UInt8) (kb : Nat) (b1 b2 : List UInt8)
    (h : ka + 1 < kb ∨ kb + 1 < ka) : candSpec ka a1 a2 kb b1 b2 = false := by
  unfold candSpec; rw [if_neg (by omega), if_neg (by omega), if_neg (by omega)]

/-- the candidate relation pairs each block hash with its effective block-size index
    (`k` for the first, `k + 1` for the second) and asks for a common substring at one index -/
theorem candSpec_iff (ka : Nat) (a1 a2 : List UInt8) (kb : Nat) (b1 b2 : List UInt8) :
    candSpec ka a1 a2 kb b1 b2 = true ↔
      (ka = kb ∧ common7 a1 b1 = true) ∨ (ka + 1 = kb ∧ common7 a2 b1 = true) ∨
      (ka = kb + 1 ∧ common7 a1 b2 = true) ∨ (ka + 1 = kb + 1 ∧ common7 a2 b2 = true) := by
  rcases near_cases ka kb with rfl | rfl | rfl | h
  · rw [candSpec_same]; simp
  · rw [candSpec_succ]; simp; omega
  · rw [candSpec_pred]; simp; omega
  · rw [candSpec_far _ _ _ _ _ _ h]; simp; omega

/-- **C10 (range).** the score lies in `0..=100` -/
theorem score_le_100 (ka : Nat) (a1 a2 : List UInt8) (kb : Nat) (b1 b2 : List UInt8) :
    score ka a1 a2 kb b1 b2 ≤ 100 := by
  rcases near_cases ka kb with rfl | rfl | rfl | h
  · rw [score_same]
    split
    · exact Nat.le_refl _
    · exact Nat.max_le.mpr ⟨scorePair_le _ _ _, scorePair_le _ _ _⟩
  · rw [score_succ]; exact scorePair_le _ _ _
  · rw [score_pred]; exact scorePair_le _ _ _
  · rw [score_far _ _ _ _ _ _ h]; omega

/-- **C10 (symmetry).** the score is the same in both argument orders -/
theorem score_symm (ka : Nat) (a1 a2 : List UInt8) (kb : Nat) (b1 b2 : List UInt8) :
    score ka a1 a2 kb b1 b2 = score kb b1 b2 ka a1 a2 := by
  rcases near_cases ka kb with rfl | rfl | rfl | h
  · rw [score_same, score_same, scorePair_symm a1 b1, scorePair_symm a2 b2]
    exact ite_congr (propext ⟨fun h => ⟨h.1.symm, h.2.symm⟩, fun h => ⟨h.1.symm, h.2.symm⟩⟩) (fun _ => rfl) (fun _ => rfl)
  · rw [score_succ, score_pred, scorePair_symm]
  · rw [score_pred, score_succ, scorePair_symm]
  · rw [score_far _ _ _ _ _ _ h, score_far _ _ _ _ _ _ h.symm]

/-- **C10 (identity).** a hash scores 100 against itself -/
theorem score_self (k : Nat) (a1 a2 : List UInt8) : score k a1 a2 k a1 a2 = 100 := by
  rw [score_same, if_pos ⟨rfl, rfl⟩]

/-- **C10 (candidates).** the score is non-zero exactly when the hashes are equal or the candidate
    test holds -/
theorem score_ne_zero_iff (ka : Nat) (a1 a2 : List UInt8) (kb : Nat) (b1 b2 : List UInt8) :
    score ka a1 a2 kb b1 b2 ≠ 0 ↔ ((ka = kb ∧ a1 = b1 ∧ a2 = b2) ∨ candSpec ka a1 a2 kb b1 b2 = true) := by
  rcases near_cases ka kb with rfl | rfl | rfl | h
  · rw [score_same, candSpec_same, Bool.or_eq_true, ← scorePair_ne_zero_iff a1 b1 ka, ← scorePair_ne_zero_iff a2 b2 (ka + 1)]
    split
    · simp [*]
    · simp only [*, and_false, false_or]; omega
  · rw [score_succ, candSpec_succ, scorePair_ne_zero_iff, or_iff_right (by omega)]
  · rw [score_pred, candSpec_pred, scorePair_ne_zero_iff, or_iff_right (by omega)]
  · rw [score_far _ _ _ _ _ _ h, candSpec_far _ _ _ _ _ _ h]
    simp; omega

end Ffuzzy.C10
