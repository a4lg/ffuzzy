/-
  Facts about strings of bytes that do not mention the model: where a scan written with `takeWhile`
  stops, positional numerals read by a left fold, most significant digit first, with digit values
  `f d < b` (the decimal block size, the base-64 value of a window), and the transfer of a finite sweep
  over `Fin 256` to `UInt8`.
-/
namespace List

/-- the scanners are written with `drop (takeWhile p l).length`, core's lemmas speak of `dropWhile` -/
theorem drop_length_takeWhile {α : Type _} (p : α → Bool) (l : List α) :
    l.drop (l.takeWhile p).length = l.dropWhile p := by
  induction l with
  | nil => rfl
  | cons x xs ih =>
    by_cases h : p x = true
    · rw [takeWhile_cons_of_pos h, dropWhile_cons_of_pos h, length_cons, drop_succ_cons, ih]
    · rw [takeWhile_cons_of_neg h, dropWhile_cons_of_neg h]; rfl

section Digits
variable {α : Type _} (b : Nat) (f : α → Nat)

/-- a numeral read from the start value `a` is `a` shifted by the number of digits, plus the numeral
    read from 0 -/
theorem foldl_digits (l : List α) (a : Nat) :
    l.foldl (fun acc d => acc * b + f d) a = a * b ^ l.length + l.foldl (fun acc d => acc * b + f d) 0 := by
  induction l generalizing a with
  | nil => simp
  | cons x xs ih =>
    -- either fold takes `x` into its start value, which `ih` shifts by the remaining digits
    have hl : (x :: xs).foldl (fun acc d => acc * b + f d) a =
        (a * b + f x) * b ^ xs.length + xs.foldl (fun acc d => acc * b + f d) 0 := ih _
    have hr : (x :: xs).foldl (fun acc d => acc * b + f d) 0 =
        f x * b ^ xs.length + xs.foldl (fun acc d => acc * b + f d) 0 := by
      rw [List.foldl_cons, ih, Nat.zero_mul, Nat.zero_add]
    have hpow : a * b ^ (xs.length + 1) = a * b * b ^ xs.length := by
      rw [Nat.pow_succ', Nat.mul_assoc]
    rw [hl, hr, List.length_cons, hpow, Nat.add_mul, Nat.add_assoc]

theorem foldl_digits_lt (l : List α) (h : ∀ d ∈ l, f d < b) (a : Nat) :
    l.foldl (fun acc d => acc * b + f d) a < (a + 1) * b ^ l.length := by
  induction l generalizing a with
  | nil => simp
  | cons x xs ih =>
    have hx : a * b + f x + 1 ≤ (a + 1) * b := by
      have := h x List.mem_cons_self
      rw [Nat.add_mul, Nat.one_mul]; omega
    calc (x :: xs).foldl (fun acc d => acc * b + f d) a
        < (a * b + f x + 1) * b ^ xs.length := ih (fun y hy => h y (List.mem_cons_of_mem _ hy)) _
      _ ≤ (a + 1) * b * b ^ xs.length := Nat.mul_le_mul_right _ hx
      _ = (a + 1) * b ^ (x :: xs).length := by rw [List.length_cons, Nat.pow_succ, Nat.mul_assoc, Nat.mul_comm b]

/-- numerals of equal length with equal values have the same digits, and were read from the same
    start value (which the induction needs: the start value of the tails takes in the first digit) -/
theorem foldl_digits_inj (hinj : ∀ x y, f x = f y → x = y) : ∀ (xs ys : List α) (u v : Nat),
    xs.length = ys.length → (∀ d ∈ xs, f d < b) → (∀ d ∈ ys, f d < b) →
    xs.foldl (fun acc d => acc * b + f d) u = ys.foldl (fun acc d => acc * b + f d) v → u = v ∧ xs = ys := by
  intro xs
  induction xs with
  | nil => intro ys u v hl _ _ h; cases length_eq_zero_iff.mp hl.symm; exact ⟨h, rfl⟩
  | cons x xs ih =>
    intro ys u v hl hx hy h
    cases ys with
    | nil => cases hl
    | cons y ys =>
      have hdx := hx x (mem_cons_self ..)
      have hdy := hy y (mem_cons_self ..)
      obtain ⟨e, rfl⟩ := ih ys (u * b + f x) (v * b + f y) (Nat.succ.inj hl)
        (fun z hz => hx z (mem_cons_of_mem _ hz)) (fun z hz => hy z (mem_cons_of_mem _ hz)) h
      -- the start values are the quotients by `b`, the digits the remainders
      have hq : ∀ w z, z < b → (w * b + z) / b = w := fun w z hz => by
        rw [Nat.mul_comm, Nat.mul_add_div (Nat.zero_lt_of_lt hz), Nat.div_eq_of_lt hz, Nat.add_zero]
      have hu : u = v := by rw [← hq u _ hdx, ← hq v _ hdy, e]
      have hd : f x = f y := Nat.add_left_cancel (hu ▸ e)
      exact ⟨hu, by rw [hinj x y hd]⟩

end Digits

end List

theorem UInt8.forall_of_fin {P : UInt8 → Prop} (h : ∀ i : Fin 256, P i.val.toUInt8) (c : UInt8) : P c :=
  UInt8.ofNat_toNat (x := c) ▸ h ⟨c.toNat, c.toNat_lt⟩
