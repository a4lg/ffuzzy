/-
  The block-size field parser (`parse_block_size_from_bytes`): it accepts exactly a non-empty
  digit string without leading zero, followed by ':', whose value is one of the 31 block sizes.
-/
import FfuzzyModel.Spec.Grammar
import FfuzzyProofs.Digits
import FfuzzyProofs.ListLemmas
namespace Ffuzzy.ParseBs
open Ffuzzy.Spec

/-- the decimal value of `ds` read on from the value `v` of the digits before them: `Spec.decimalValue`
    with a start value, which is the loop's state -/
def decFrom (v : Nat) (ds : List UInt8) : Nat := ds.foldl (fun acc d => acc * 10 + (d - 48).toNat) v

theorem decFrom_zero (ds : List UInt8) : decFrom 0 ds = decimalValue ds := rfl

theorem decFrom_nil (v : Nat) : decFrom v [] = v := rfl

theorem decFrom_cons (v : Nat) (d : UInt8) (ds : List UInt8) :
    decFrom v (d :: ds) = decFrom (v * 10 + (d - 48).toNat) ds := rfl

theorem decFrom_ge (ds : List UInt8) : ∀ v, v ≤ decFrom v ds := by
  induction ds with
  | nil => intro v; exact Nat.le_refl _
  | cons d ds ih => intro v; exact Nat.le_trans (by omega) (ih (v * 10 + (d - 48).toNat))

def digits (cs : List UInt8) : List UInt8 := cs.takeWhile isDigit

def afterDigits (cs : List UInt8) : List UInt8 := cs.drop (digits cs).length

theorem afterDigits_eq (cs : List UInt8) : afterDigits cs = cs.dropWhile isDigit :=
  List.drop_length_takeWhile isDigit cs

theorem digits_cons_digit (c : UInt8) (cs : List UInt8) (h : isDigit c = true) : digits (c :: cs) = c :: digits cs :=
  List.takeWhile_cons_of_pos h

theorem digits_cons_other (c : UInt8) (cs : List UInt8) (h : ¬ isDigit c = true) : digits (c :: cs) = [] :=
  List.takeWhile_cons_of_neg h

theorem afterDigits_cons_digit (c : UInt8) (cs : List UInt8) (h : isDigit c = true) : afterDigits (c :: cs) = afterDigits cs := by
  rw [afterDigits_eq, afterDigits_eq, List.dropWhile_cons_of_pos h]

theorem afterDigits_cons_other (c : UInt8) (cs : List UInt8) (h : ¬ isDigit c = true) : afterDigits (c :: cs) = c :: cs := by
  rw [afterDigits_eq, List.dropWhile_cons_of_neg h]

theorem digits_append (ds rest : List UInt8) (hd : ∀ x ∈ ds, isDigit x = true) : digits (ds ++ rest) = ds ++ digits rest :=
  List.takeWhile_append_of_pos hd

theorem afterDigits_append (ds rest : List UInt8) (hd : ∀ x ∈ ds, isDigit x = true) : afterDigits (ds ++ rest) = afterDigits rest := by
  rw [afterDigits_eq, afterDigits_eq, List.dropWhile_append_of_pos hd]

theorem digits_afterDigits (t : List UInt8) : t = digits t ++ afterDigits t := by
  rw [afterDigits_eq]; exact List.takeWhile_append_dropWhile.symm

theorem digits_all (t : List UInt8) : ∀ c ∈ digits t, isDigit c = true :=
  List.all_eq_true.mp List.all_takeWhile

/-- the acceptance condition of the block-size field, from a scan state with value `v` after `index` digits
    (48 is '0', 58 is ':', 4294967296 is 2^32: the value fits the `u32`) -/
def Accept (cs : List UInt8) (index v : Nat) (bs : UInt32) (off : Nat) : Prop :=
  (afterDigits cs).head? = some 58 ∧ 0 < index + (digits cs).length ∧
  (index = 0 → (digits cs).head? ≠ some 48) ∧ decFrom v (digits cs) < 4294967296 ∧
  BlockSize.isValid (decFrom v (digits cs)).toUInt32 = true ∧ bs = (decFrom v (digits cs)).toUInt32 ∧
  off = index + (digits cs).length + 1

theorem digit_val (ch : UInt8) (h : isDigit ch = true) : (ch - 48).toNat ≤ 9 ∧ ((ch - 48).toNat = 0 ↔ ch = 48) := by
  unfold isDigit at h
  simp only [Bool.and_eq_true, decide_eq_true_eq] at h
  have h1 : (48 : UInt8).toNat ≤ ch.toNat := UInt8.le_iff_toNat_le.mp h.1
  have h2 : ch.toNat ≤ (57 : UInt8).toNat := UInt8.le_iff_toNat_le.mp h.2
  have e : (ch - 48).toNat = ch.toNat - 48 := by
    rw [UInt8.toNat_sub_of_le _ _ h.1]; rfl
  have e48 : (48 : UInt8).toNat = 48 := rfl
  have e57 : (57 : UInt8).toNat = 57 := rfl
  refine ⟨by omega, ?_⟩
  constructor
  · intro hz; apply UInt8.toNat_inj.mp; omega
  · intro hz; rw [hz]; rfl

theorem digit_inj {x y : UInt8} (h : (x - 48).toNat = (y - 48).toNat) : x = y := by
  simpa using UInt8.toNat_inj.mp h

theorem accept_cons_digit (ch : UInt8) (rest : List UInt8) (index v : Nat) (b : UInt32) (off : Nat)
    (hd : isDigit ch = true) :
    Accept (ch :: rest) index v b off ↔
      (index = 0 → ch ≠ 48) ∧ Accept rest (index + 1) (v * 10 + (ch - 48).toNat) b off := by
  unfold Accept
  rw [digits_cons_digit ch rest hd, afterDigits_cons_digit ch rest hd, List.length_cons, List.head?_cons, decFrom_cons]
  constructor
  · rintro ⟨a1, _, a3, a4, a5, a6, a7⟩
    exact ⟨fun hi e => a3 hi (e ▸ rfl), a1, by omega, fun h => by omega, a4, a5, a6, by omega⟩
  · rintro ⟨a0, a1, _, _, a4, a5, a6, a7⟩
    exact ⟨a1, by omega, fun hi e => a0 hi (Option.some.inj e), a4, a5, a6, by omega⟩

theorem accept_cons_other (ch : UInt8) (rest : List UInt8) (index v : Nat) (b : UInt32) (off : Nat)
    (hd : ¬ isDigit ch = true) :
    Accept (ch :: rest) index v b off ↔
      ch = 58 ∧ 0 < index ∧ v < 4294967296 ∧ BlockSize.isValid v.toUInt32 = true ∧ b = v.toUInt32 ∧ off = index + 1 := by
  unfold Accept
  rw [digits_cons_other ch rest hd, afterDigits_cons_other ch rest hd, List.head?_cons, decFrom_nil]
  constructor
  · rintro ⟨a1, a2, _, a4, a5, a6, a7⟩
    exact ⟨Option.some.inj a1, a2, a4, a5, a6, a7⟩
  · rintro ⟨rfl, a2, a4, a5, a6, a7⟩
    exact ⟨rfl, a2, (fun _ h => nomatch h), a4, a5, a6, a7⟩

theorem loop_outOfRange (cs : List UInt8) (index : Nat) (bs : UInt32) (r : UInt32 × Nat) :
    parseBlockSizeLoop cs index bs false ≠ .ok r := by
  generalize hir : false = ir
  fun_induction parseBlockSizeLoop cs index bs ir with
  | case2 | case3 | case4 => cases hir -- a digit while in range
  | case5 _ _ _ _ _ _ _ ih => exact ih rfl -- a digit, out of range already
  | case9 _ _ _ _ _ _ _ _ h => subst hir; exact absurd rfl h -- ':' after a block size, which needs the range
  | _ => exact fun h => nomatch h -- the error exits

/-- The code finds a leading '0' by the value still being 0 after a digit. The two hypotheses on `bs`, the
    value of the `index` digits read so far, make that test mean what `Accept` says: the value is 0 before
    the first digit and positive after it. -/
theorem loop_spec : ∀ (cs : List UInt8) (index : Nat) (bs : UInt32),
    (0 < index → 0 < bs.toNat) → (index = 0 → bs.toNat = 0) →
    ∀ b off, parseBlockSizeLoop cs index bs true = .ok (b, off) ↔ Accept cs index bs.toNat b off := by
  intro cs index bs
  generalize hir : true = ir
  fun_induction parseBlockSizeLoop cs index bs ir with
  | case1 => -- end of input
    intro _ _ b off; exact ⟨(fun h => nomatch h), fun h => nomatch h.1⟩
  | case2 ch rest index bs hd v hlt hz => -- a digit making the value 0: a leading '0' (later the value is positive)
    intro hpos _ b off
    rw [accept_cons_digit _ _ _ _ _ _ hd]
    refine ⟨(fun h => nomatch h), fun h => ?_⟩
    have hi : index = 0 := Nat.eq_zero_of_not_pos fun h0 => by have := hpos h0; omega
    have hch : ch = 48 := (digit_val ch hd).2.mp (by omega)
    exact absurd hch (h.1 hi)
  | case3 ch rest index bs hd v hlt hnz ih => -- digit, value still in range
    intro _ hzero b off
    rw [accept_cons_digit _ _ _ _ _ _ hd, ih rfl (fun _ => by rw [UInt32.toNat_ofNat_of_lt' hlt]; omega) (fun h => nomatch h) b off,
      UInt32.toNat_ofNat_of_lt' hlt]
    -- the value is not 0 after this digit, so as the first digit it is not '0'
    have hfirst : index = 0 → ch ≠ 48 := fun hi e => by
      have hb0 : bs.toNat = 0 := hzero hi
      have hd0 : (ch - 48).toNat = 0 := (digit_val ch hd).2.mpr e
      exact hnz (by omega)
    exact ⟨fun h => ⟨hfirst, h⟩, fun h => h.2⟩
  | case4 ch rest index bs hd v hnlt => -- digit, value leaves the range
    intro _ _ b off
    rw [accept_cons_digit _ _ _ _ _ _ hd]
    refine ⟨fun h => absurd h (loop_outOfRange _ _ _ _), fun h => ?_⟩
    obtain ⟨_, _, _, _, hrange, _⟩ := h
    have hge := decFrom_ge (digits rest) (bs.toNat * 10 + (ch - 48).toNat)
    omega
  | case5 _ _ _ _ _ _ hnir => exact absurd hir.symm hnir -- digit, out of range already
  | case6 ch rest bs ir hd h58 => -- ':' with no digit before it
    intro _ _ b off
    rw [accept_cons_other _ _ _ _ _ _ hd]
    refine ⟨(fun h => nomatch h), fun h => ?_⟩
    obtain ⟨_, hpos, _⟩ := h
    exact absurd hpos (Nat.lt_irrefl 0)
  | case7 ch rest index bs ir hd h58 hi hnr => subst hir; cases hnr -- ':', out of range
  | case8 ch rest index bs ir hd h58 hi hnr hnv => -- ':' after a value that is no block size
    intro _ _ b off
    rw [accept_cons_other _ _ _ _ _ _ hd, toUInt32_toNat]
    refine ⟨(fun h => nomatch h), fun h => ?_⟩
    obtain ⟨_, _, _, hvalid, _⟩ := h
    rw [hvalid] at hnv
    cases hnv
  | case9 ch rest index bs ir hd h58 hi hnr hv => -- ':' after a block size
    intro _ _ b off
    rw [accept_cons_other _ _ _ _ _ _ hd, toUInt32_toNat]
    constructor
    · intro h; cases h
      exact ⟨by simpa using h58, by omega, bs.toNat_lt, by simpa using hv, rfl, rfl⟩
    · rintro ⟨_, _, _, _, rfl, rfl⟩; rfl
  | case10 ch rest index bs ir hd h58 => -- any other character
    intro _ _ b off
    rw [accept_cons_other _ _ _ _ _ _ hd]
    exact ⟨(fun h => nomatch h), fun h => absurd (by simpa using h.1) h58⟩

theorem loop_error_origin (cs : List UInt8) (index : Nat) (bs : UInt32) (ir : Bool) (e : ParseError)
    (h : parseBlockSizeLoop cs index bs ir = .error e) : e.origin = .blockSize := by
  fun_induction parseBlockSizeLoop cs index bs ir with
  | case3 _ _ _ _ _ _ _ _ ih | case4 _ _ _ _ _ _ _ ih | case5 _ _ _ _ _ _ _ ih => exact ih h
  | case9 => cases h
  | _ => cases h; rfl

end Ffuzzy.ParseBs
