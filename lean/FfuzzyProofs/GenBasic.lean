/-
  Frame lemmas about the generator model: what a per-byte step can and cannot change,
  size accounting of the three update forms.
-/
import FfuzzyModel.Generator
namespace Ffuzzy.Gen

/-- the fields a byte step never touches -/
def frame (g : Gen) : Nat × Option Nat × Nat := (g.inputSize, g.fixedSize, g.bhEndLimit)

theorem frame_ctx (g : Gen) (c : Array Ctx) : ({ g with ctx := c } : Gen).frame = g.frame := rfl

theorem frame_panicked (g : Gen) (b : Bool) : ({ g with panicked := b } : Gen).frame = g.frame := rfl

theorem ite_frame {c : Prop} [Decidable c] {a b g : Gen} (ha : a.frame = g.frame) (hb : b.frame = g.frame) :
    (if c then a else b).frame = g.frame := by
  split
  · exact ha
  · exact hb

/-! The frame proofs follow the branching of the definitions; a leaf is `rfl` where the branch is a
    record update of other fields. -/

theorem forkStep_frame (g : Gen) (i : Nat) : (g.forkStep i).frame = g.frame :=
  ite_frame (ite_frame (ite_frame rfl rfl) (ite_frame rfl rfl)) rfl

theorem elimStep_frame (g : Gen) (i : Nat) (w : Bool) : (g.elimStep i w).frame = g.frame :=
  ite_frame (ite_frame (ite_frame rfl rfl) rfl) rfl

theorem bhLoop2_frame (g : Gen) (i h : Nat) : (bhLoop2 g i h).frame = g.frame := by
  fun_induction bhLoop2 g i h
  -- the exits of the body in order: three panics (1–3), two regular exits (4, 5), the recursive call (6), `i ≥ 31` (7)
  case case6 ih => rw [ih, elimStep_frame, frame_ctx, forkStep_frame]
  case case7 => rfl
  case case1 => exact forkStep_frame _ _
  case case2 => rw [frame_panicked, forkStep_frame]
  all_goals rw [elimStep_frame, frame_ctx, forkStep_frame]

theorem stepByte_frame (g : Gen) (ch : UInt8) : (g.stepByte ch).frame = g.frame :=
  ite_frame rfl (ite_frame rfl (ite_frame rfl (ite_frame rfl (ite_frame rfl (bhLoop2_frame _ _ _)))))

theorem foldl_stepByte_frame (bs : List UInt8) : ∀ g : Gen, (bs.foldl stepByte g).frame = g.frame := by
  induction bs with
  | nil => intro g; rfl
  | cons c cs ih => intro g; exact (ih _).trans (stepByte_frame g c)

/-- the three components of `frame` after an `update`: `inputSize` has taken the bytes (saturating),
    `fixedSize` and `bhEndLimit` are as before -/
theorem update_inputSize (g : Gen) (bs : List UInt8) :
    (g.update bs).inputSize = satAdd g.inputSize bs.length ∧ (g.update bs).fixedSize = g.fixedSize ∧
      (g.update bs).bhEndLimit = g.bhEndLimit := by
  have := foldl_stepByte_frame bs { g with inputSize := satAdd g.inputSize bs.length }
  exact ⟨congrArg (·.1) this, congrArg (·.2.1) this, congrArg (·.2.2) this⟩

theorem satAdd_assoc (a b c : Nat) : satAdd (satAdd a b) c = satAdd a (b + c) := by
  unfold satAdd
  rw [← Nat.add_min_add_right, Nat.min_assoc, Nat.min_eq_right (Nat.le_add_right _ _), Nat.add_assoc]

theorem satAdd_le (a b : Nat) : satAdd a b ≤ U64_MAX := Nat.min_le_right _ _

/-- a run of `update` calls accounts for the bytes of all of them (conjuncts as in `update_inputSize`) -/
theorem foldl_update_inputSize (l : List (List UInt8)) : ∀ g : Gen, g.inputSize ≤ U64_MAX →
    (l.foldl update g).inputSize = satAdd g.inputSize l.flatten.length ∧ (l.foldl update g).fixedSize = g.fixedSize ∧
      (l.foldl update g).bhEndLimit = g.bhEndLimit := by
  induction l with
  | nil => intro g hg; exact ⟨(Nat.min_eq_left hg).symm, rfl, rfl⟩
  | cons c cs ih =>
    intro g hg
    obtain ⟨u1, u2, u3⟩ := update_inputSize g c
    have := ih (g.update c) (by rw [u1]; exact satAdd_le _ _)
    rw [u1, u2, u3, satAdd_assoc, ← List.length_append] at this
    exact this

/-- `update_by_iter` / `update_by_byte` account per byte: the calls `update [c]`, one for each byte -/
theorem updateByIter_inputSize (bs : List UInt8) (g : Gen) (hg : g.inputSize ≤ U64_MAX) :
    (g.updateByIter bs).inputSize = satAdd g.inputSize bs.length ∧ (g.updateByIter bs).fixedSize = g.fixedSize ∧
      (g.updateByIter bs).bhEndLimit = g.bhEndLimit := by
  have := foldl_update_inputSize (bs.map fun c => [c]) g hg
  rwa [List.foldl_map, ← List.flatMap_def, List.flatMap_singleton'] at this

theorem updateByByte_fold_inputSize (bs : List UInt8) (g : Gen) (hg : g.inputSize ≤ U64_MAX) :
    (bs.foldl updateByByte g).inputSize = satAdd g.inputSize bs.length := by
  have e : g.updateByIter bs = bs.foldl updateByByte g := rfl
  rw [← e]; exact (updateByIter_inputSize bs g hg).1

theorem setFixedInputSize_new (s : Nat) (h : s ≤ MAX_INPUT_SIZE) :
    new.setFixedInputSize s =
      .ok { new with fixedSize := some s, bhEndLimit := min 30 (logBlockSizeFromInputSize s 0 + 1) } := by
  unfold setFixedInputSize
  rw [if_neg (Nat.not_lt.mpr h)]
  rfl

/-- the test that `set_fixed_input_size` and finalisation apply to a declared size `x` against a size `s` -/
theorem hint_ok_iff (x : Option Nat) (s : Nat) : ¬ (x.isSome && x != some s) = true ↔ x = none ∨ x = some s := by
  cases x <;> simp

theorem finalizeRaw_ok_fixed {g : Gen} {trunc : Bool} {s2 m : Nat} {d : Digest}
    (h : g.finalizeRaw trunc s2 = .ok d) (hf : g.fixedSize = some m) : g.inputSize = m := by
  by_cases c : (g.fixedSize.isSome && g.fixedSize != some g.inputSize) = true
  · rw [finalizeRaw, if_pos c] at h
    cases h
  · rw [hf] at c
    rcases (hint_ok_iff _ _).mp c with e | e
    · cases e
    · exact (Option.some.inj e).symm

end Ffuzzy.Gen
