/-
  `block_hash_position_array_element::has_sequences` for a general length: the doubling masks
  c02, c04, … mark the starts of runs of 2, 4, … set bits; the bits of the remaining length select
  which of them are and-ed in at which shift; the result is non-zero iff a run of `len` set bits exists.
  (The crate itself only uses the instance `has_sequences_const::<4>`: `PosInit.hasSequences4_iff`.)
-/
import FfuzzyModel.PosArray
import FfuzzyProofs.Bits
namespace Ffuzzy.HasSeq

/-- bit `i` of `y` says that `x` has `m` consecutive set bits from `i` on -/
def Runs (x : BitVec 64) (m : Nat) (y : BitVec 64) : Prop :=
  ∀ i, y.getLsbD i = true ↔ ∀ j, j < m → x.getLsbD (i + j) = true

theorem runs_one (x : BitVec 64) : Runs x 1 x :=
  fun _ => ⟨fun h j hj => by rwa [Nat.lt_one_iff.mp hj], fun h => h 0 Nat.one_pos⟩

theorem runs_add (x y z : BitVec 64) (a b : Nat) (ha : Runs x a y) (hb : Runs x b z) :
    Runs x (a + b) (y &&& (z >>> a)) := by
  intro i
  rw [BitVec.getLsbD_and, BitVec.getLsbD_ushiftRight, Bool.and_eq_true, ha i, hb (a + i)]
  constructor
  · rintro ⟨h1, h2⟩ j hj
    by_cases hja : j < a
    · exact h1 j hja
    · have := h2 (j - a) (by omega)
      have e : a + i + (j - a) = i + j := by omega
      rwa [e] at this
  · intro h
    refine ⟨fun j hj => h j (by omega), fun j hj => ?_⟩
    have := h (a + j) (by omega)
    have e : i + (a + j) = a + i + j := by omega
    rwa [e] at this

theorem ite_triple {α β γ : Type} (c : Prop) [Decidable c] (a a' : α) (b b' : β) (d d' : γ) :
    (if c then (a, b, d) else (a', b', d')) = (if c then a else a', if c then b else b', if c then d else d') := by
  split <;> rfl

/-- one conditional and-step of `hasSequences` on the pair `(mask, shift)`, with the new shift
    written as a sum: the final shift is then the start plus the selected bits, and `bits32` applies -/
theorem step_eq (m C : BitVec 64) (s bit : Nat) (c : Prop) [Decidable c] :
    (if c then (m &&& (C >>> s), s + bit) else (m, s)) =
      (if c then m &&& (C >>> s) else m, s + if c then bit else 0) := by
  split <;> rfl

theorem step_runs {x m C : BitVec 64} {s bit : Nat} (c : Prop) [Decidable c] (hm : Runs x s m) (hC : Runs x bit C) :
    Runs x (s + if c then bit else 0) (if c then m &&& (C >>> s) else m) := by
  split
  · exact runs_add x m C s bit hm hC
  · exact hm

theorem Runs.congr {x : BitVec 64} {a b : Nat} {y : BitVec 64} (h : Runs x a y) (e : a = b) : Runs x b y := e ▸ h

theorem bits32 : ∀ n, n < 32 →
    n = (if (n &&& 16 != 0) = true then 16 else 0) + (if (n &&& 8 != 0) = true then 8 else 0) +
        (if (n &&& 4 != 0) = true then 4 else 0) + (if (n &&& 2 != 0) = true then 2 else 0) +
        (if (n &&& 1 != 0) = true then 1 else 0) := by decide

theorem ne_zero_iff_run (x m : BitVec 64) (len : Nat) (hlen : 1 ≤ len) (h : Runs x len m) :
    (m != 0) = true ↔ ∃ i, i + len ≤ 64 ∧ ∀ j, j < len → x.getLsbD (i + j) = true := by
  rw [bne_iff_ne, Bits.ne_zero_iff]
  constructor
  · rintro ⟨p, _, hp⟩
    have hr := (h p).mp hp
    have := BitVec.lt_of_getLsbD (hr (len - 1) (by omega))
    exact ⟨p, by omega, hr⟩
  · rintro ⟨i, hi, hr⟩
    exact ⟨i, by omega, (h i).mpr hr⟩

/-- closes goals `SHIFT = len` where `SHIFT` is written with nested `if`s over the five low bits of `n`
    (`if n &&& 1 != 0 then (if n &&& 2 != 0 then … else …) + 1 else …`), by the 32-way case split -/
macro "bits_arith" n:term : tactic => `(tactic| (
  have hb := bits32 $n (by omega)
  by_cases h16 : (($n &&& 16) != 0) = true <;> by_cases h8 : (($n &&& 8) != 0) = true <;>
  by_cases h4 : (($n &&& 4) != 0) = true <;> by_cases h2 : (($n &&& 2) != 0) = true <;>
  by_cases h1 : (($n &&& 1) != 0) = true <;>
  simp only [h16, h8, h4, h2, h1, if_true, if_false, Bool.false_eq_true, ↓reduceIte] at hb ⊢ <;> omega))

/-- **`has_sequences` (general length).**  `hasSequences x len` holds exactly when `len = 0` or `x` has
    `len` consecutive set bits somewhere among its 64 positions. -/
theorem hasSequences_iff (x : BitVec 64) (len : Nat) :
    hasSequences x len = true ↔ (len = 0 ∨ ∃ i, i + len ≤ 64 ∧ ∀ j, j < len → x.getLsbD (i + j) = true) := by
  unfold hasSequences
  by_cases h0 : len = 0
  · simp [h0]
  rw [if_neg h0, or_iff_right h0]
  by_cases h1 : len = 1
  · subst h1
    exact ne_zero_iff_run x x 1 (by omega) (runs_one x)
  rw [if_neg h1]
  by_cases h64 : len < 64
  · rw [if_pos h64]
    extract_lets c01 c02 c04 c08 c16 c32
    have r01 : Runs x 1 c01 := runs_one x
    have r02 : Runs x 2 c02 := runs_add x _ _ 1 1 r01 r01
    have r04 : Runs x 4 c04 := runs_add x _ _ 2 2 r02 r02
    have r08 : Runs x 8 c08 := runs_add x _ _ 4 4 r04 r04
    have r16 : Runs x 16 c16 := runs_add x _ _ 8 8 r08 r08
    have r32 : Runs x 32 c32 := runs_add x _ _ 16 16 r16 r16
    -- the start chosen from the length: `mask` marks runs of `shift`, and `n < 32` remains
    generalize hsel : (if len < 4 then _ else _ : Nat × Nat × BitVec 64) = t
    obtain ⟨n, s, m, rfl, hm, hs, hn⟩ : ∃ n s m, t = (n, s, m) ∧ Runs x s m ∧ s + n = len ∧ n < 32 := by
      rw [← hsel]
      by_cases h4 : len < 4
      · exact ⟨_, _, _, if_pos h4, r02, by omega, by omega⟩
      rw [if_neg h4]
      by_cases h8 : len < 8
      · exact ⟨_, _, _, if_pos h8, r04, by omega, by omega⟩
      rw [if_neg h8]
      by_cases h16 : len < 16
      · exact ⟨_, _, _, if_pos h16, r08, by omega, by omega⟩
      rw [if_neg h16]
      by_cases h32 : len < 32
      · exact ⟨_, _, _, if_pos h32, r16, by omega, by omega⟩
      · exact ⟨_, _, _, if_neg h32, r32, by omega, by omega⟩
    simp only [step_eq]
    have hb := bits32 n hn
    exact ne_zero_iff_run x _ len (by omega)
      ((step_runs _ (step_runs _ (step_runs _ (step_runs _ (step_runs _ hm r16) r08) r04) r02) r01).congr (by omega))
  rw [if_neg h64]
  by_cases h64e : len = 64
  · subst h64e
    rw [if_pos rfl, beq_iff_eq]
    constructor
    · rintro rfl
      exact ⟨0, by omega, fun j hj => by rw [BitVec.getLsbD_allOnes]; simpa using hj⟩
    · rintro ⟨i, hi, hr⟩
      have hi0 : i = 0 := by omega
      subst hi0
      exact BitVec.eq_of_getLsbD_eq fun j hj => by
        rw [← Nat.zero_add j, hr j hj, BitVec.getLsbD_allOnes]; simpa using hj
  · rw [if_neg h64e]
    constructor
    · intro h; cases h
    · rintro ⟨i, hi, _⟩; omega

end Ffuzzy.HasSeq
