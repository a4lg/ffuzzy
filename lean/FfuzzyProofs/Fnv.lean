/-
  The partial FNV hash: a table step on a 6-bit state is the low six bits of a full
  32-bit FNV-1 step, so the table hash is the low six bits of FNV-1; states stay below 64; the
  reduced-table variant agrees.
-/
import FfuzzyModel.Fnv
namespace Ffuzzy.Prim

/-- `fnvStep_low6` on the `toNat` images: `H` the 32-bit state, `C` the byte, `P` the FNV prime -/
theorem fnvStep_low6_nat (H C P : Nat) :
    (((H % 2 ^ 8 &&& 63) * P % 2 ^ 32 % 2 ^ 8) ^^^ (C % 64)) % 64 =
      ((H * P % 2 ^ 32) ^^^ C) % 2 ^ 8 &&& 63 := by
  have e63 : ∀ x, x &&& 63 = x % 2 ^ 6 := fun x => Nat.and_two_pow_sub_one_eq_mod x 6
  have d1 : ∀ x, x % 2 ^ 8 % 2 ^ 6 = x % 2 ^ 6 := fun x => Nat.mod_mod_of_dvd x (by decide)
  have d2 : ∀ x, x % 2 ^ 32 % 2 ^ 6 = x % 2 ^ 6 := fun x => Nat.mod_mod_of_dvd x (by decide)
  rw [e63, e63, show (64 : Nat) = 2 ^ 6 from rfl]
  simp only [Nat.xor_mod_two_pow, d1, d2, Nat.mod_mod]
  rw [Nat.mul_mod, Nat.mod_mod, ← Nat.mul_mod]

/-- one table step on the low 6 bits = low 6 bits of one full FNV-1 step
    (low bits of a product depend only on low bits) -/
theorem fnvStep_low6 (h : UInt32) (c : UInt8) :
    fnvStep (h.toUInt8 &&& 63) c = ((h * 0x01000193) ^^^ c.toUInt32).toUInt8 &&& 63 := by
  apply UInt8.toNat_inj.mp
  simp only [fnvStep, UInt8.toNat_mod, UInt8.toNat_xor, UInt32.toNat_toUInt8, UInt32.toNat_mul,
    UInt8.toNat_toUInt32, UInt8.toNat_and, UInt32.toNat_xor]
  exact fnvStep_low6_nat h.toNat c.toNat _

theorem fnvUpdate_low6 (bs : List UInt8) (h : UInt32) :
    fnvUpdate (h.toUInt8 &&& 63) bs =
      (bs.foldl (fun h c => (h * 0x01000193) ^^^ c.toUInt32) h).toUInt8 &&& 63 :=
  List.foldl_hom (fun h : UInt32 => h.toUInt8 &&& 63) (H := fnvStep_low6)

theorem fnvInit_low6 : fnvInit = (0x28021967 : UInt32).toUInt8 &&& 63 := by decide

theorem fnvStep_lt (s c : UInt8) : (fnvStep s c).toNat < 64 := by
  simp only [fnvStep, UInt8.toNat_mod]
  exact Nat.mod_lt _ (by decide)

theorem fnvUpdate_lt (bs : List UInt8) : ∀ s : UInt8, s.toNat < 64 → (fnvUpdate s bs).toNat < 64 := by
  induction bs with
  | nil => exact fun _ hs => hs
  | cons c cs ih => exact fun s _ => ih _ (fnvStep_lt s c)

/-- the `opt-reduce-fnv-table` variant (full `u8` state, mask on read) agrees with the table variant -/
theorem fnvStep_eq_reduced (s c : UInt8) :
    fnvStep (s &&& 63) c = fnvValueReduced (fnvStepReduced s c) := by
  have e : s.toUInt32.toUInt8 = s := UInt8.toNat_inj.mp (by simp)
  have := fnvStep_low6 s.toUInt32 c
  rwa [e] at this

theorem fnvUpdate_eq_reduced (bs : List UInt8) (s : UInt8) :
    fnvUpdate (s &&& 63) bs = fnvValueReduced (bs.foldl fnvStepReduced s) :=
  List.foldl_hom fnvValueReduced (H := fnvStep_eq_reduced)

end Ffuzzy.Prim
