/-
  The block-hash field parser (`parse_block_hash_from_bytes_internal`). Its scanning loop without the capacity
  tests is a fold over the decoded symbols, `scan`. Where `scan` stays within the capacity the loop is `scan` and
  stops at the first character that is not base64 (`bhLoop_done`); otherwise it gives up (`bhLoop_overflow`). A
  field that fits (`fitsF`) is answered by `finish` of `scan`; one that does not is too long.
-/
import FfuzzyModel.Spec.Grammar
import FfuzzyProofs.Collapse
import FfuzzyProofs.Digits
import FfuzzyProofs.ListLemmas
namespace Ffuzzy.ParseBh
open Ffuzzy.Spec Ffuzzy.Collapse

def pre (cs : List UInt8) : List UInt8 := cs.takeWhile isB64

def post (cs : List UInt8) : List UInt8 := cs.drop (pre cs).length

/-- what the loop appends to the buffer when started in state `(seq, prev)` -/
def outOf (normalize : Bool) (cs : List UInt8) (seq : Nat) (prev : UInt8) : List UInt8 :=
  if normalize then normList ((pre cs).map b64Index) seq prev else (pre cs).map b64Index

/-- writing `out` into `bh` from position `len` (which must fit) -/
structure Wrote (bh bh' : List UInt8) (len : Nat) (out : List UInt8) : Prop where
  length : bh'.length = bh.length
  fits : len + out.length ≤ bh.length
  get : ∀ j, bh'[j]? = if len ≤ j ∧ j < len + out.length then out[j - len]? else bh[j]?

theorem Wrote.of_setSlice (bh : List UInt8) (len : Nat) (out : List UInt8) (h : len + out.length ≤ bh.length) :
    Wrote bh (setSlice bh len out) len out := by
  refine ⟨length_setSlice bh out len h, h, fun j => ?_⟩
  have hl : (bh.take len).length = len := by rw [List.length_take]; omega
  rw [setSlice, List.append_assoc]
  by_cases h1 : j < len
  · rw [if_neg (by omega), List.getElem?_append_left (by omega), List.getElem?_take_of_lt h1]
  · rw [List.getElem?_append_right (by omega), hl]
    by_cases h2 : j < len + out.length
    · rw [if_pos ⟨by omega, h2⟩, List.getElem?_append_left (by omega)]
    · rw [if_neg (by omega), List.getElem?_append_right (by omega), List.getElem?_drop]
      congr 1; omega

theorem post_eq (cs : List UInt8) : post cs = cs.dropWhile isB64 := List.drop_length_takeWhile isB64 cs

theorem pre_cons_valid (c : UInt8) (cs : List UInt8) (h : isB64 c = true) : pre (c :: cs) = c :: pre cs :=
  List.takeWhile_cons_of_pos h

theorem pre_cons_invalid (c : UInt8) (cs : List UInt8) (h : ¬ isB64 c = true) : pre (c :: cs) = [] :=
  List.takeWhile_cons_of_neg h

theorem post_cons_valid (c : UInt8) (cs : List UInt8) (h : isB64 c = true) : post (c :: cs) = post cs := by
  rw [post_eq, post_eq, List.dropWhile_cons_of_pos h]

theorem post_cons_invalid (c : UInt8) (cs : List UInt8) (h : ¬ isB64 c = true) : post (c :: cs) = c :: cs := by
  rw [post_eq, List.dropWhile_cons_of_neg h]

theorem pre_append (xs rest : List UInt8) (hx : ∀ x ∈ xs, isB64 x = true) : pre (xs ++ rest) = xs ++ pre rest :=
  List.takeWhile_append_of_pos hx

theorem post_append (xs rest : List UInt8) (hx : ∀ x ∈ xs, isB64 x = true) : post (xs ++ rest) = post rest := by
  rw [post_eq, post_eq, List.dropWhile_append_of_pos hx]

theorem pre_post (cs : List UInt8) : cs = pre cs ++ post cs := by
  rw [post_eq]; exact List.takeWhile_append_dropWhile.symm

theorem pre_all (cs : List UInt8) : ∀ c ∈ pre cs, isB64 c = true :=
  List.all_eq_true.mp List.all_takeWhile

theorem post_head_invalid (cs : List UInt8) (c : UInt8) (rest : List UInt8) (h : post cs = c :: rest) : isB64 c = false := by
  have := List.head?_dropWhile_not isB64 cs
  rw [← post_eq, h] at this
  exact this

theorem pre_length_le (cs : List UInt8) : (pre cs).length ≤ cs.length :=
  (List.takeWhile_sublist _).length_le

theorem pre_take (cs : List UInt8) (n : Nat) : pre (cs.take n) = (pre cs).take n := List.take_takeWhile.symm

theorem post_take (cs : List UInt8) (n : Nat) : post (cs.take n) = (post cs).take (n - (pre cs).length) := by
  unfold post
  rw [pre_take, List.length_take]
  by_cases h : (pre cs).length ≤ n
  · rw [Nat.min_eq_right h, List.drop_take]
  · rw [Nat.min_eq_left (by omega), show n - (pre cs).length = 0 by omega, List.take_zero]
    exact List.drop_eq_nil_of_le (List.length_take_le n cs)

theorem isB64_iff (c : UInt8) : isB64 c = true ↔ (b64Index c == b64Invalid) = false := by
  unfold isB64; cases h : (b64Index c == b64Invalid) <;> simp [bne, h]

theorem b64Index_ne_invalid (c : UInt8) (h : isB64 c = true) : b64Index c ≠ b64Invalid :=
  bne_iff_ne.mp h

theorem pre_ne_invalid (cs : List UInt8) : ∀ s ∈ (pre cs).map b64Index, s ≠ b64Invalid := by
  intro s hs
  obtain ⟨c, hc, rfl⟩ := List.mem_map.mp hs
  exact b64Index_ne_invalid c (pre_all cs c hc)

theorem bhTrack_len (nm : Bool) (c : UInt8) (s : BhLoop) : (bhTrack nm c s).len = s.len := by
  unfold bhTrack; cases nm
  · rfl
  · cases c == s.prev <;> rfl

theorem bhTrack_index (nm : Bool) (c : UInt8) (s : BhLoop) : (bhTrack nm c s).index = s.index := by
  unfold bhTrack; cases nm
  · rfl
  · cases c == s.prev <;> rfl

theorem bhTrack_bh (nm : Bool) (c : UInt8) (s : BhLoop) : (bhTrack nm c s).bh = s.bh := by
  unfold bhTrack; cases nm
  · rfl
  · cases c == s.prev <;> rfl

/-- the loop's test for dropping a character: it would be the fourth of a run -/
def skips (nm : Bool) (c : UInt8) (s : BhLoop) : Bool :=
  nm && c == s.prev && decide (s.seq + 1 ≥ MAX_SEQUENCE_SIZE)

/-- the loop state (`S`) after a dropped character -/
def skipS (s : BhLoop) : BhLoop := { s with seq := MAX_SEQUENCE_SIZE, index := s.index + 1 }

theorem skipS_len (s : BhLoop) : (skipS s).len = s.len := rfl

theorem skipS_index (s : BhLoop) : (skipS s).index = s.index + 1 := rfl

theorem skipS_bh (s : BhLoop) : (skipS s).bh = s.bh := rfl

theorem skipS_seq (s : BhLoop) : (skipS s).seq = MAX_SEQUENCE_SIZE := rfl

theorem skipS_prev (s : BhLoop) : (skipS s).prev = s.prev := rfl

/-- the loop state after a stored character -/
def keepS (nm : Bool) (c : UInt8) (s : BhLoop) : BhLoop :=
  { bhTrack nm c s with bh := s.bh.set s.len c, len := s.len + 1, index := s.index + 1 }

theorem keepS_len (nm : Bool) (c : UInt8) (s : BhLoop) : (keepS nm c s).len = s.len + 1 := rfl

theorem keepS_index (nm : Bool) (c : UInt8) (s : BhLoop) : (keepS nm c s).index = s.index + 1 := rfl

theorem keepS_bh (nm : Bool) (c : UInt8) (s : BhLoop) : (keepS nm c s).bh = s.bh.set s.len c := rfl

theorem keepS_seq (nm : Bool) (c : UInt8) (s : BhLoop) : (keepS nm c s).seq = (bhTrack nm c s).seq := rfl

theorem keepS_prev (nm : Bool) (c : UInt8) (s : BhLoop) : (keepS nm c s).prev = (bhTrack nm c s).prev := rfl

/-- the loop without its capacity tests, on the decoded symbols: what the tests cut short -/
def scan (nm : Bool) (x : List UInt8) (s : BhLoop) : BhLoop :=
  x.foldl (fun s c => if skips nm c s then skipS s else keepS nm c s) s

theorem scan_cons (nm : Bool) (c : UInt8) (x : List UInt8) (s : BhLoop) :
    scan nm (c :: x) s = scan nm x (if skips nm c s then skipS s else keepS nm c s) := rfl

/-- the symbols of `x` that `scan` stores when started in state `(seq, prev)`; `outOf` is this on the decoded
    base64 prefix -/
def kept (nm : Bool) (x : List UInt8) (seq : Nat) (prev : UInt8) : List UInt8 :=
  if nm then normList x seq prev else x

theorem outOf_eq_kept (nm : Bool) (cs : List UInt8) (seq : Nat) (prev : UInt8) :
    outOf nm cs seq prev = kept nm ((pre cs).map b64Index) seq prev := rfl

theorem kept_nil (nm : Bool) (seq : Nat) (prev : UInt8) : kept nm [] seq prev = [] := by
  unfold kept; cases nm <;> rfl

theorem kept_cons_skip (nm : Bool) (c : UInt8) (x : List UInt8) (s : BhLoop) (h : skips nm c s = true) :
    kept nm (c :: x) s.seq s.prev = kept nm x (skipS s).seq (skipS s).prev := by
  simp only [skips, Bool.and_eq_true, decide_eq_true_eq] at h
  obtain ⟨⟨rfl, hsame⟩, hfull⟩ := h
  unfold kept
  rw [if_pos rfl, if_pos rfl, normList, if_pos hsame, if_pos hfull, skipS_seq, skipS_prev]

theorem kept_cons_keep (nm : Bool) (c : UInt8) (x : List UInt8) (s : BhLoop) (h : ¬ skips nm c s = true) :
    kept nm (c :: x) s.seq s.prev = c :: kept nm x (keepS nm c s).seq (keepS nm c s).prev := by
  rw [keepS_seq, keepS_prev]
  unfold kept bhTrack
  cases nm with
  | false => rfl
  | true =>
    simp only [skips, Bool.true_and, Bool.and_eq_true, decide_eq_true_eq, not_and] at h
    rw [if_pos rfl, if_pos rfl, if_pos rfl, normList]
    by_cases e : (c == s.prev) = true
    · rw [if_pos e, if_pos e, if_neg (h e)]
    · rw [if_neg e, if_neg e]

theorem kept_length_le (nm : Bool) (x : List UInt8) (seq : Nat) (prev : UInt8) : (kept nm x seq prev).length ≤ x.length := by
  unfold kept
  split
  · exact normList_length_le x seq prev
  · exact Nat.le_refl _

theorem outOf_length_le (nm : Bool) (cs : List UInt8) (seq : Nat) (prev : UInt8) :
    (outOf nm cs seq prev).length ≤ (pre cs).length :=
  Nat.le_trans (kept_length_le ..) (Nat.le_of_eq (List.length_map _))

theorem scan_index (nm : Bool) (x : List UInt8) (s : BhLoop) : (scan nm x s).index = s.index + x.length := by
  induction x generalizing s with
  | nil => rfl
  | cons c x ih =>
    rw [scan_cons, ih, List.length_cons]
    split
    · rw [skipS_index, Nat.add_assoc, Nat.add_comm 1]
    · rw [keepS_index, Nat.add_assoc, Nat.add_comm 1]

theorem scan_len (nm : Bool) (x : List UInt8) (s : BhLoop) :
    (scan nm x s).len = s.len + (kept nm x s.seq s.prev).length := by
  induction x generalizing s with
  | nil => rw [kept_nil]; rfl
  | cons c x ih =>
    rw [scan_cons, ih]
    by_cases hk : skips nm c s = true
    · rw [if_pos hk, kept_cons_skip nm c x s hk, skipS_len]
    · rw [if_neg hk, kept_cons_keep nm c x s hk, keepS_len, List.length_cons, Nat.add_assoc,
        Nat.add_comm 1]

theorem scan_bh (nm : Bool) (x : List UInt8) (s : BhLoop) (h : s.len + (kept nm x s.seq s.prev).length ≤ s.bh.length) :
    (scan nm x s).bh = setSlice s.bh s.len (kept nm x s.seq s.prev) := by
  induction x generalizing s with
  | nil => rw [kept_nil, setSlice_nil]; rfl
  | cons c x ih =>
    rw [scan_cons]
    by_cases hk : skips nm c s = true
    · rw [kept_cons_skip nm c x s hk] at h ⊢
      rw [if_pos hk, ih (skipS s) h, skipS_bh, skipS_len]
    · rw [kept_cons_keep nm c x s hk] at h ⊢
      rw [List.length_cons] at h
      have hroom : (keepS nm c s).len + (kept nm x (keepS nm c s).seq (keepS nm c s).prev).length ≤
          (keepS nm c s).bh.length := by
        rw [keepS_len, keepS_bh, List.length_set]
        omega
      rw [if_neg hk, ih (keepS nm c s) hroom, keepS_len, keepS_bh]
      exact setSlice_set_cons c _ (by omega)

theorem scan_pre_index (nm : Bool) (cs : List UInt8) (s : BhLoop) :
    (scan nm ((pre cs).map b64Index) s).index = s.index + (pre cs).length := by
  rw [scan_index, List.length_map]

theorem scan_pre_len (nm : Bool) (cs : List UInt8) (s : BhLoop) :
    (scan nm ((pre cs).map b64Index) s).len = s.len + (outOf nm cs s.seq s.prev).length :=
  scan_len ..

theorem scan_wrote (nm : Bool) (cs : List UInt8) (s : BhLoop) {n : Nat} (hb : s.bh.length = n)
    (h : s.len + (outOf nm cs s.seq s.prev).length ≤ n) :
    Wrote s.bh (scan nm ((pre cs).map b64Index) s).bh s.len (outOf nm cs s.seq s.prev) := by
  rw [outOf_eq_kept] at h ⊢
  rw [scan_bh nm _ s (hb ▸ h)]
  exact Wrote.of_setSlice _ _ _ (hb ▸ h)

theorem scan_field_len (nm : Bool) (bh bytes : List UInt8) :
    (scan nm ((pre bytes).map b64Index) { bh := bh }).len = (outOf nm bytes 0 b64Invalid).length :=
  (scan_pre_len ..).trans (Nat.zero_add _)

theorem scan_field_index (nm : Bool) (bh bytes : List UInt8) :
    (scan nm ((pre bytes).map b64Index) { bh := bh }).index = (pre bytes).length :=
  (scan_pre_index ..).trans (Nat.zero_add _)

theorem scan_field_bh (nm : Bool) (bh bytes : List UInt8) (h : (outOf nm bytes 0 b64Invalid).length ≤ bh.length) :
    (scan nm ((pre bytes).map b64Index) { bh := bh }).bh = setSlice bh 0 (outOf nm bytes 0 b64Invalid) :=
  scan_bh nm _ { bh := bh } ((Nat.zero_add _).symm ▸ h)

/-- what the loop does with a base64 character that passes the capacity tests: drop it as the
    fourth of a run, or store it (`skips` is the same test as a `Bool`) -/
inductive Act | skip | keep

def actOf (normalize : Bool) (curr : UInt8) (s : BhLoop) : Act :=
  if normalize && curr == s.prev && decide (s.seq + 1 ≥ MAX_SEQUENCE_SIZE) then .skip else .keep

theorem bhLoop_cons_invalid (n : Nat) (nm lr ck : Bool) (ch : UInt8) (rest : List UInt8) (s : BhLoop)
    (hv : ¬ isB64 ch = true) : bhLoop n nm lr ck (ch :: rest) s = .done s true (some ch) := by
  have hinv : (b64Index ch == b64Invalid) = true := by
    cases h : (b64Index ch == b64Invalid)
    · exact absurd ((isB64_iff ch).mpr h) hv
    · rfl
  rw [bhLoop]; simp only [hinv, if_true]

/-- `ck`: the capacity tests are compiled in (the default parser) -/
theorem bhLoop_cons_valid (n : Nat) (nm lr ck : Bool) (ch : UInt8) (rest : List UInt8) (s : BhLoop)
    (hv : isB64 ch = true) :
    bhLoop n nm lr ck (ch :: rest) s =
      if (ck && lr && decide (s.index ≥ n)) = true then .overflow s
      else if skips nm (b64Index ch) s = true then bhLoop n nm lr ck rest (skipS s)
      else if (ck && decide (s.len ≥ n)) = true then .overflow (bhTrack nm (b64Index ch) s)
      else bhLoop n nm lr ck rest (keepS nm (b64Index ch) s) := by
  rw [bhLoop]; simp only [(isB64_iff ch).mp hv, Bool.false_eq_true, if_false, bhTrack_len, bhTrack_index, bhTrack_bh]; rfl

/-- Where the loop without tests stays within the capacity, the loop is that loop on the base64 prefix, in both
    flavours (the capacity matters only where the tests are compiled in, `ck`). -/
theorem bhLoop_done (n : Nat) (nm lr ck : Bool) (cs : List UInt8) (s : BhLoop)
    (hl : ck = true → (scan nm ((pre cs).map b64Index) s).len ≤ n)
    (hi : ck = true → lr = true → s.index + (pre cs).length ≤ n) :
    bhLoop n nm lr ck cs s = .done (scan nm ((pre cs).map b64Index) s) (!(post cs).isEmpty) (post cs).head? := by
  induction cs generalizing s with
  | nil => rfl
  | cons ch rest ih =>
    by_cases hv : isB64 ch = true
    · rw [pre_cons_valid ch rest hv, List.length_cons, Nat.add_comm _ 1, ← Nat.add_assoc] at hi
      rw [pre_cons_valid ch rest hv, List.map_cons, scan_cons] at hl ⊢
      rw [post_cons_valid ch rest hv, bhLoop_cons_valid n nm lr ck ch rest s hv]
      have hraw : ¬ (ck && lr && decide (s.index ≥ n)) = true := fun h => by
        simp only [Bool.and_eq_true, decide_eq_true_eq] at h
        have := hi h.1.1 h.1.2
        omega
      rw [if_neg hraw]
      by_cases hk : skips nm (b64Index ch) s = true
      · rw [if_pos hk] at hl
        rw [if_pos hk, if_pos hk]
        exact ih (skipS s) hl fun h1 h2 => by rw [skipS_index]; exact hi h1 h2
      · rw [if_neg hk] at hl
        rw [if_neg hk, if_neg hk]
        -- the stored character counts in the final `len`
        have hfull : ¬ (ck && decide (s.len ≥ n)) = true := fun h => by
          simp only [Bool.and_eq_true, decide_eq_true_eq] at h
          have := hl h.1
          rw [scan_len, keepS_len] at this
          omega
        rw [if_neg hfull]
        exact ih (keepS nm (b64Index ch) s) hl fun h1 h2 => by rw [keepS_index]; exact hi h1 h2
    · rw [pre_cons_invalid ch rest hv, post_cons_invalid ch rest hv, bhLoop_cons_invalid n nm lr ck ch rest s hv]
      rfl

/-- With the capacity tests compiled in, where `scan` leaves the capacity the loop gives up; the reports it gives
    up with are those of `scan` on the first `k` symbols, `k` within the raw limit (all that
    `DualP.field_reports` needs of that state). -/
theorem bhLoop_overflow (n : Nat) (nm lr : Bool) (cs : List UInt8) (s : BhLoop)
    (hl : s.len ≤ n) (hi : lr = true → s.index ≤ n)
    (h : ¬ ((scan nm ((pre cs).map b64Index) s).len ≤ n ∧ (lr = true → s.index + (pre cs).length ≤ n))) :
    ∃ s' k, bhLoop n nm lr true cs s = .overflow s' ∧
      s'.reports = (scan nm (((pre cs).map b64Index).take k) s).reports ∧ (lr = true → s.index + k ≤ n) := by
  induction cs generalizing s with
  | nil => exact absurd ⟨hl, hi⟩ h
  | cons ch rest ih =>
    by_cases hv : isB64 ch = true
    · rw [pre_cons_valid ch rest hv, List.length_cons, Nat.add_comm _ 1, ← Nat.add_assoc, List.map_cons, scan_cons] at h
      rw [bhLoop_cons_valid n nm lr true ch rest s hv, pre_cons_valid ch rest hv, List.map_cons]
      by_cases hraw : (true && lr && decide (s.index ≥ n)) = true
      · exact ⟨s, 0, if_pos hraw, rfl, hi⟩
      · rw [if_neg hraw]
        have hraw' : lr = true → s.index + 1 ≤ n := fun h2 => by
          simp only [h2, Bool.true_and, decide_eq_true_eq] at hraw; omega
        by_cases hk : skips nm (b64Index ch) s = true
        · rw [if_pos hk] at h ⊢
          obtain ⟨s', k, hexit, hrep, hidx⟩ := ih (skipS s) hl hraw' h
          refine ⟨s', k + 1, hexit, ?_, fun h2 => ?_⟩
          · rw [List.take_succ_cons, scan_cons, if_pos hk]; exact hrep
          · have := hidx h2; rw [skipS_index] at this; omega
        · rw [if_neg hk] at h ⊢
          by_cases hfull : s.len ≥ n
          · -- the state given up with has the reports of the state that would have kept the character
            refine ⟨_, 1, if_pos (by simpa using hfull), ?_, hraw'⟩
            rw [List.take_succ_cons, List.take_zero, scan_cons, if_neg hk]; rfl
          · rw [if_neg (by simpa using hfull)]
            obtain ⟨s', k, hexit, hrep, hidx⟩ := ih (keepS nm (b64Index ch) s) (by rw [keepS_len]; omega) hraw' h
            refine ⟨s', k + 1, hexit, ?_, fun h2 => ?_⟩
            · rw [List.take_succ_cons, scan_cons, if_neg hk]; exact hrep
            · have := hidx h2; rw [keepS_index] at this; omega
    · rw [pre_cons_invalid ch rest hv] at h
      exact absurd ⟨hl, hi⟩ h

/-- the scanning loop with the capacity test compiled in (default parser) -/
theorem bhLoop_default (n : Nat) (normalize limitRaw : Bool) : ∀ (cs : List UInt8) (s : BhLoop),
    s.bh.length = n → s.len ≤ n → (limitRaw = true → s.index ≤ n) →
    ((s.len + (outOf normalize cs s.seq s.prev).length ≤ n ∧ (limitRaw = true → s.index + (pre cs).length ≤ n)) →
      ∃ s', bhLoop n normalize limitRaw true cs s = .done s' (!(post cs).isEmpty) (post cs).head? ∧
        s'.len = s.len + (outOf normalize cs s.seq s.prev).length ∧ s'.index = s.index + (pre cs).length ∧
        Wrote s.bh s'.bh s.len (outOf normalize cs s.seq s.prev)) ∧
    (¬ (s.len + (outOf normalize cs s.seq s.prev).length ≤ n ∧ (limitRaw = true → s.index + (pre cs).length ≤ n)) →
      ∃ s', bhLoop n normalize limitRaw true cs s = .overflow s') := by
  intro cs s hb hl hi
  rw [← scan_pre_len]
  refine ⟨fun h => ?_, fun h => ?_⟩
  · exact ⟨_, bhLoop_done n normalize limitRaw true cs s (fun _ => h.1) (fun _ => h.2), rfl, scan_pre_index ..,
      scan_wrote normalize cs s hb (scan_pre_len .. ▸ h.1)⟩
  · obtain ⟨s', _, hexit, _⟩ := bhLoop_overflow n normalize limitRaw cs s hl hi h
    exact ⟨s', hexit⟩

/-- the scanning loop without the capacity test, on an input of at most the remaining capacity
    (strict parser: the iterator is `take(N)`) -/
theorem bhLoop_strict (n : Nat) (normalize limitRaw : Bool) : ∀ (cs : List UInt8) (s : BhLoop),
    s.bh.length = n → s.len ≤ s.index → s.index + cs.length ≤ n →
    ∃ s', bhLoop n normalize limitRaw false cs s = .done s' (!(post cs).isEmpty) (post cs).head? ∧
      s'.len = s.len + (outOf normalize cs s.seq s.prev).length ∧ s'.index = s.index + (pre cs).length ∧
      Wrote s.bh s'.bh s.len (outOf normalize cs s.seq s.prev) := by
  intro cs s hb hl hi
  have hfit : s.len + (outOf normalize cs s.seq s.prev).length ≤ n := by
    have := outOf_length_le normalize cs s.seq s.prev
    have := pre_length_le cs
    omega
  exact ⟨_, bhLoop_done n normalize limitRaw false cs s nofun nofun, scan_pre_len .., scan_pre_index ..,
    scan_wrote normalize cs s hb hfit⟩

/-- the `report_norm_seq` calls after the loop -/
def finalReports (nm : Bool) (s : BhLoop) : List (Nat × Nat) :=
  if nm && s.seq = MAX_SEQUENCE_SIZE then s.reports ++ [(s.seqStart, s.index - s.seqStartIn)] else s.reports

/-- the capacity condition of the field parser (`F` for field: the grammar's is `Spec.fits`, and
    `ParseField.fits_iff` relates the two) -/
def fitsF (cfg : Cfg) (n : Nat) (nm lr : Bool) (bytes : List UInt8) : Prop :=
  if cfg.strictParser then (pre bytes).length ≤ n
  else (outOf nm bytes 0 b64Invalid).length ≤ n ∧ (lr = true → (pre bytes).length ≤ n)

theorem outOf_length_le_of_fitsF {cfg : Cfg} {n : Nat} {nm lr : Bool} {bytes : List UInt8} (h : fitsF cfg n nm lr bytes) :
    (outOf nm bytes 0 b64Invalid).length ≤ n := by
  unfold fitsF at h
  split at h
  · exact Nat.le_trans (outOf_length_le ..) h
  · exact h.1

/-- the state the field parser reports after a normal loop exit, from the look-ahead character; `hasChar`: the
    loop itself has read that character (the strict parser may have to look it up behind its `take(N)`) -/
def endState (cfg : Cfg) (hasChar : Bool) : Option UInt8 → BhState
  | none => .metEndOfString
  | some ch =>
    if ch == 58 then .metColon else if ch == 44 then .metComma
    else if cfg.strictParser && !hasChar then .overflowError else .base64Error

theorem endState_none (cfg : Cfg) (hasChar : Bool) : endState cfg hasChar none = .metEndOfString := rfl

theorem endState_colon (cfg : Cfg) (hasChar : Bool) : endState cfg hasChar (some 58) = .metColon := rfl

theorem endState_comma (cfg : Cfg) (hasChar : Bool) : endState cfg hasChar (some 44) = .metComma := rfl

theorem endState_other (cfg : Cfg) (hasChar : Bool) {c : UInt8} (h58 : c ≠ 58) (h44 : c ≠ 44) :
    endState cfg hasChar (some c) = if cfg.strictParser && !hasChar then .overflowError else .base64Error := by
  dsimp only [endState]
  rw [if_neg (fun h => h58 (eq_of_beq h)), if_neg (fun h => h44 (eq_of_beq h))]

/-- the field parser's answer after a normal loop exit in state `s` with look-ahead `look` -/
def finish (cfg : Cfg) (nm : Bool) (s : BhLoop) (hasChar : Bool) (look : Option UInt8) : BhParse :=
  { state := endState cfg hasChar look,
    consumed := if look = some 58 ∨ look = some 44 then s.index + 1 else s.index,
    bh := s.bh, len := s.len, reports := finalReports nm s }

theorem finish_state (cfg : Cfg) (nm : Bool) (s : BhLoop) (hasChar : Bool) (look : Option UInt8) :
    (finish cfg nm s hasChar look).state = endState cfg hasChar look := rfl

theorem finish_consumed (cfg : Cfg) (nm : Bool) (s : BhLoop) (hasChar : Bool) (look : Option UInt8) :
    (finish cfg nm s hasChar look).consumed = if look = some 58 ∨ look = some 44 then s.index + 1 else s.index := rfl

theorem finish_bh (cfg : Cfg) (nm : Bool) (s : BhLoop) (hasChar : Bool) (look : Option UInt8) :
    (finish cfg nm s hasChar look).bh = s.bh := rfl

theorem finish_len (cfg : Cfg) (nm : Bool) (s : BhLoop) (hasChar : Bool) (look : Option UInt8) :
    (finish cfg nm s hasChar look).len = s.len := rfl

theorem finish_reports (cfg : Cfg) (nm : Bool) (s : BhLoop) (hasChar : Bool) (look : Option UInt8) :
    (finish cfg nm s hasChar look).reports = finalReports nm s := rfl

theorem parseBlockHash_of_overflow {cfg : Cfg} {n : Nat} {bh : List UInt8} {nm lr : Bool} {bytes : List UInt8} {s : BhLoop}
    (h : bhLoop n nm lr (!cfg.strictParser) (if cfg.strictParser then bytes.take n else bytes) { bh := bh } = .overflow s) :
    parseBlockHash cfg n bh nm lr bytes = ⟨.overflowError, s.index, s.bh, s.len, s.reports⟩ := by
  unfold parseBlockHash; simp only [h]

theorem parseBlockHash_of_done {cfg : Cfg} {n : Nat} {bh : List UInt8} {nm lr : Bool} {bytes : List UInt8} {s : BhLoop}
    {hasChar : Bool} {rawCh : Option UInt8}
    (h : bhLoop n nm lr (!cfg.strictParser) (if cfg.strictParser then bytes.take n else bytes) { bh := bh } = .done s hasChar rawCh) :
    parseBlockHash cfg n bh nm lr bytes =
      finish cfg nm s hasChar (if cfg.strictParser && !hasChar then (bytes.drop s.index).head? else rawCh) := by
  unfold parseBlockHash; simp only [h]
  generalize (if (cfg.strictParser && !hasChar) = true then (bytes.drop s.index).head? else rawCh) = look
  unfold finish endState finalReports
  cases look with
  | none => rfl
  | some ch =>
    simp only
    by_cases h58 : ch = 58
    · subst h58; rfl
    · by_cases h44 : ch = 44
      · subst h44; rfl
      · have b1 : (ch == 58) = false := by simpa using h58
        have b2 : (ch == 44) = false := by simpa using h44
        simp only [b1, b2, Option.some.injEq, h58, h44, or_self, if_false, Bool.false_eq_true]
        cases cfg.strictParser <;> cases hasChar <;> rfl

theorem bhLoop_take (n : Nat) (nm lr : Bool) (bh bytes : List UInt8) :
    bhLoop n nm lr false (bytes.take n) { bh := bh } =
      .done (scan nm (((pre bytes).map b64Index).take n) { bh := bh })
        (!(post (bytes.take n)).isEmpty) (post (bytes.take n)).head? := by
  rw [← List.map_take, ← pre_take]
  exact bhLoop_done n nm lr false (bytes.take n) { bh := bh } nofun nofun

/-- A field that fits: the answer is `finish` of the loop without tests, at the true look-ahead. That character
    was read by the loop itself unless the strict parser's `take(N)` ended right before it. -/
theorem parseBlockHash_of_fits (cfg : Cfg) (n : Nat) (nm lr : Bool) (bh bytes : List UInt8)
    (hfit : fitsF cfg n nm lr bytes) :
    parseBlockHash cfg n bh nm lr bytes =
      finish cfg nm (scan nm ((pre bytes).map b64Index) { bh := bh })
        (!cfg.strictParser || decide ((pre bytes).length < n)) (post bytes).head? := by
  unfold fitsF at hfit
  cases hstrict : cfg.strictParser with
  | true =>
    rw [hstrict, if_pos rfl] at hfit
    rw [parseBlockHash_of_done (by rw [hstrict]; exact bhLoop_take n nm lr bh bytes), hstrict,
      List.take_of_length_le (by rw [List.length_map]; exact hfit), scan_field_index]
    -- the look-ahead character: where `take(N)` has hidden it, the strict parser looks it up
    rw [show bytes.drop (pre bytes).length = post bytes from rfl, post_take]
    cases hpb : post bytes with
    | nil => rw [List.take_nil]; rfl
    | cons c rest =>
      cases hk : n - (pre bytes).length with
      | zero => rw [decide_eq_false (by omega)]; rfl
      | succ k => rw [decide_eq_true (by omega)]; rfl
  | false =>
    rw [hstrict, if_neg Bool.false_ne_true] at hfit
    have hlen : (scan nm ((pre bytes).map b64Index) { bh := bh }).len ≤ n := by
      rw [scan_field_len]
      exact hfit.1
    have hloop := bhLoop_done n nm lr true bytes { bh := bh } (fun _ => hlen) fun _ h => (Nat.zero_add _).symm ▸ hfit.2 h
    rw [parseBlockHash_of_done (by rw [hstrict]; exact hloop), hstrict]
    cases post bytes <;> rfl

theorem parseBlockHash_state (cfg : Cfg) (n : Nat) (nm lr : Bool) (bh bytes : List UInt8) (hfit : fitsF cfg n nm lr bytes) :
    (parseBlockHash cfg n bh nm lr bytes).state =
      endState cfg (!cfg.strictParser || decide ((pre bytes).length < n)) (post bytes).head? := by
  rw [parseBlockHash_of_fits cfg n nm lr bh bytes hfit, finish_state]

theorem parseBlockHash_consumed (cfg : Cfg) (n : Nat) (nm lr : Bool) (bh bytes : List UInt8) (hfit : fitsF cfg n nm lr bytes) :
    (parseBlockHash cfg n bh nm lr bytes).consumed =
      if (post bytes).head? = some 58 ∨ (post bytes).head? = some 44 then (pre bytes).length + 1 else (pre bytes).length := by
  rw [parseBlockHash_of_fits cfg n nm lr bh bytes hfit, finish_consumed, scan_field_index]

/-- A field that does not fit is reported as too long, with the reports of `bhLoop_overflow` (as they stand, or
    closed as after the loop). -/
theorem parseBlockHash_of_not_fits (cfg : Cfg) (n : Nat) (nm lr : Bool) (bh bytes : List UInt8)
    (hnf : ¬ fitsF cfg n nm lr bytes) : (parseBlockHash cfg n bh nm lr bytes).state = .overflowError ∧
    ∃ k, (lr = true → k ≤ n) ∧
      ((parseBlockHash cfg n bh nm lr bytes).reports = (scan nm (((pre bytes).map b64Index).take k) { bh := bh }).reports ∨
       (parseBlockHash cfg n bh nm lr bytes).reports = finalReports nm (scan nm (((pre bytes).map b64Index).take k) { bh := bh })) := by
  unfold fitsF at hnf
  cases hstrict : cfg.strictParser with
  | true =>
    -- more than `n` base64 characters: the loop reads `n` of them, the look-ahead is the next one
    rw [hstrict, if_pos rfl] at hnf
    have hlen : n < (pre bytes).length := by omega
    have hidx : (scan nm (((pre bytes).map b64Index).take n) { bh := bh }).index = n := by
      rw [scan_index, List.length_take, List.length_map, Nat.min_eq_left (Nat.le_of_lt hlen)]
      exact Nat.zero_add n
    have hpost : post (bytes.take n) = [] := by
      rw [post_take, show n - (pre bytes).length = 0 by omega, List.take_zero]
    have hlook : (bytes.drop n).head? = some (pre bytes)[n] := by
      rw [List.head?_drop]
      conv => lhs; rw [pre_post bytes]
      rw [List.getElem?_append_left hlen, List.getElem?_eq_getElem hlen]
    have hc : isB64 (pre bytes)[n] = true := pre_all bytes _ (List.getElem_mem hlen)
    rw [parseBlockHash_of_done (by rw [hstrict]; exact bhLoop_take n nm lr bh bytes), hstrict, hpost, hidx]
    refine ⟨?_, n, fun _ => Nat.le_refl n, Or.inr (finish_reports ..)⟩
    show endState cfg false (bytes.drop n).head? = _
    rw [hlook, endState_other cfg false (fun h => by rw [h] at hc; cases hc) (fun h => by rw [h] at hc; cases hc), hstrict]
    rfl
  | false =>
    rw [hstrict, if_neg Bool.false_ne_true] at hnf
    have hnf' : ¬ ((scan nm ((pre bytes).map b64Index) { bh := bh }).len ≤ n ∧
        (lr = true → 0 + (pre bytes).length ≤ n)) := by
      rw [scan_field_len, Nat.zero_add]
      exact hnf
    obtain ⟨s', k, hexit, hrep, hidx⟩ :=
      bhLoop_overflow n nm lr bytes { bh := bh } (Nat.zero_le _) (fun _ => Nat.zero_le _) hnf'
    rw [parseBlockHash_of_overflow (cfg := cfg) (bytes := bytes) (by rw [hstrict]; exact hexit)]
    exact ⟨rfl, k, fun h => (Nat.zero_add k).symm ▸ hidx h, Or.inl hrep⟩

/-- the block-hash field parser, both parser flavours, as one conjunction; later files use the equations
    `parseBlockHash_of_fits` / `_of_not_fits` (and `bhLoop_done` / `bhLoop_overflow`) instead -/
theorem parseBlockHash_spec (cfg : Cfg) (n : Nat) (nm lr : Bool) (bh bytes : List UInt8) (hbh : bh.length = n) :
    (fitsF cfg n nm lr bytes →
      (parseBlockHash cfg n bh nm lr bytes).len = (outOf nm bytes 0 b64Invalid).length ∧
      Wrote bh (parseBlockHash cfg n bh nm lr bytes).bh 0 (outOf nm bytes 0 b64Invalid) ∧
      (post bytes = [] → (parseBlockHash cfg n bh nm lr bytes).state = .metEndOfString ∧
        (parseBlockHash cfg n bh nm lr bytes).consumed = (pre bytes).length) ∧
      (∀ rest, post bytes = 58 :: rest → (parseBlockHash cfg n bh nm lr bytes).state = .metColon ∧
        (parseBlockHash cfg n bh nm lr bytes).consumed = (pre bytes).length + 1) ∧
      (∀ rest, post bytes = 44 :: rest → (parseBlockHash cfg n bh nm lr bytes).state = .metComma ∧
        (parseBlockHash cfg n bh nm lr bytes).consumed = (pre bytes).length + 1) ∧
      (∀ c rest, post bytes = c :: rest → c ≠ 58 → c ≠ 44 →
        ((parseBlockHash cfg n bh nm lr bytes).state = .base64Error ∨
         (parseBlockHash cfg n bh nm lr bytes).state = .overflowError))) ∧
    (¬ fitsF cfg n nm lr bytes → (parseBlockHash cfg n bh nm lr bytes).state = .overflowError) := by
  refine ⟨fun hfit => ?_, fun hnf => (parseBlockHash_of_not_fits cfg n nm lr bh bytes hnf).1⟩
  have hout : (outOf nm bytes 0 b64Invalid).length ≤ bh.length := hbh ▸ outOf_length_le_of_fitsF hfit
  rw [parseBlockHash_state cfg n nm lr bh bytes hfit, parseBlockHash_consumed cfg n nm lr bh bytes hfit,
    parseBlockHash_of_fits cfg n nm lr bh bytes hfit, finish_len, finish_bh, scan_field_len, scan_field_bh nm bh bytes hout]
  refine ⟨rfl, Wrote.of_setSlice _ _ _ ((Nat.zero_add _).symm ▸ hout), fun h => ?_, fun _ h => ?_, fun _ h => ?_,
    fun c _ h h58 h44 => ?_⟩
  · rw [h]; exact ⟨rfl, rfl⟩
  · rw [h]; exact ⟨rfl, rfl⟩
  · rw [h]; exact ⟨rfl, rfl⟩
  · rw [h, List.head?_cons, endState_other cfg _ h58 h44]
    split
    · exact Or.inr rfl
    · exact Or.inl rfl

end Ffuzzy.ParseBh
