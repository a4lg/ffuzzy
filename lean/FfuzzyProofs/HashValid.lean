/-
  Validity of `FuzzyHashData` objects as a proposition, equivalence with the model's `is_valid`;
  a valid object is its content, zero padded (`ofContent`), and validity is a property of the
  content (`Content`); normalising a valid raw object collapses the content.
-/
import FfuzzyProofs.Collapse
namespace Ffuzzy
open Ffuzzy.Spec Ffuzzy.Collapse

/-- the is-normalised scan in state `(seq, prev)` accepts the strings that may follow `seq + 1` copies
    of `prev` unchanged (and, with `rangeIn`, hold symbols only) -/
theorem verifyNormLoop_iff (rangeIn : Bool) (xs : List UInt8) : ∀ (seq : Nat) (prev : UInt8), seq ≤ 2 →
    (verifyNormLoop rangeIn xs seq prev = true ↔
      (rangeIn = true → ∀ x ∈ xs, x < 64) ∧ collapseAux xs (some prev) (seq + 1) = xs) := by
  induction xs with
  | nil => intro _ _ _; simp [verifyNormLoop, collapseAux]
  | cons c cs ih =>
    intro seq prev hs
    rw [verifyNormLoop]
    by_cases hr : (rangeIn && decide (c ≥ 64)) = true
    · rw [if_pos hr]
      simp only [Bool.and_eq_true, decide_eq_true_eq] at hr
      exact iff_of_false Bool.false_ne_true
        fun h => absurd (h.1 hr.1 c List.mem_cons_self) (UInt8.not_lt.mpr hr.2)
    · have hc : rangeIn = true → c < 64 := fun r => by simpa [r] using hr
      have hall : (rangeIn = true → ∀ x ∈ c :: cs, x < 64) ↔ (rangeIn = true → ∀ x ∈ cs, x < 64) :=
        imp_congr_right fun r => List.forall_mem_cons.trans (and_iff_right (hc r))
      rw [if_neg hr, hall]
      by_cases hp : c = prev
      · subst hp
        rw [if_pos (beq_self_eq_true c), collapseAux_cons_same]
        by_cases h3 : seq + 1 ≥ MAX_SEQUENCE_SIZE
        · rw [if_pos h3]
          exact iff_of_false Bool.false_ne_true fun h => absurd h.2.1 (Nat.not_lt.mpr h3)
        · have h3' : seq + 1 < 3 := Nat.not_le.mp h3
          rw [if_neg h3, ih _ _ (Nat.le_of_lt_succ h3'), and_iff_right h3']
      · rw [if_neg (by simpa using hp), collapseAux_cons_ne (fun e => hp (Option.some.inj e).symm),
          ih 0 c (Nat.zero_le 2)]

theorem sym_ne_invalid {xs : List UInt8} (h : ∀ x ∈ xs, x < 64) : ∀ x ∈ xs, x ≠ b64Invalid :=
  fun x hx e => absurd (e ▸ h x hx) (by decide)

/-- the scan as the code starts it, with the sentinel `BASE64_INVALID` for "no symbol yet": on strings
    without the sentinel (with `rangeIn` the scan sees to that itself) it accepts the collapsed ones -/
theorem verifyNormLoop_sentinel (rangeIn : Bool) (xs : List UInt8)
    (h : rangeIn = false → ∀ x ∈ xs, x ≠ b64Invalid) :
    verifyNormLoop rangeIn xs 0 b64Invalid = true ↔
      (rangeIn = true → ∀ x ∈ xs, x < 64) ∧ collapse xs = xs := by
  rw [verifyNormLoop_iff rangeIn xs 0 b64Invalid (Nat.zero_le 2)]
  refine and_congr_right fun hs => ?_
  have hns : ∀ x ∈ xs, x ≠ b64Invalid := by
    cases rangeIn with
    | false => exact h rfl
    | true => exact sym_ne_invalid (hs rfl)
  rw [← normList_eq_collapse xs hns, normList_eq_collapseAux]
  rfl

/-- `verify_block_hash_internal` by its three flags. `h`: the normalisation scan starts with the sentinel
    `BASE64_INVALID` for the previous symbol, so where the range check is off it is exact only on a content
    that does not hold the sentinel -/
theorem verifyBlockHash_iff (bh : List UInt8) (len : UInt8) (rangeIn rangeOut verifyNorm : Bool)
    (h : rangeIn = false → ∀ x ∈ bh.take len.toNat, x ≠ b64Invalid) :
    verifyBlockHash bh len rangeIn rangeOut verifyNorm = true ↔
      (rangeIn = true → ∀ x ∈ bh.take len.toNat, x < 64) ∧
      (verifyNorm = true → collapse (bh.take len.toNat) = bh.take len.toNat) ∧
      (rangeOut = true → ∀ x ∈ bh.drop len.toNat, x = 0) := by
  rw [verifyBlockHash, Bool.and_eq_true, ← and_assoc]
  refine and_congr ?_ (by cases rangeOut <;> simp)
  cases verifyNorm with
  | true => rw [if_pos rfl, verifyNormLoop_sentinel rangeIn _ h]; simp
  | false => cases rangeIn <;> simp

theorem BlockSize.isLogValid_iff (log : UInt8) : BlockSize.isLogValid log = true ↔ log < 31 := decide_eq_true_iff

namespace FH

/-- the abstract content `(log, block hash 1, block hash 2)` of an object; valid objects that agree on it
    are equal (`Valid.ext`) -/
def abs (h : FH) : Nat × List UInt8 × List UInt8 := (h.log.toNat, h.blockHash1, h.blockHash2)

theorem abs_eq_abs_iff (a b : FH) :
    a.abs = b.abs ↔ a.log = b.log ∧ a.blockHash1 = b.blockHash1 ∧ a.blockHash2 = b.blockHash2 := by
  rw [abs, abs, Prod.mk.injEq, Prod.mk.injEq, UInt8.toNat_inj]

/-- validity of one block hash array: length within the array, symbols < 64, zero tail,
    collapsed when the type is a normalising one -/
structure BhValid (cap : Nat) (norm : Bool) (bh : List UInt8) (len : UInt8) : Prop where
  arr : bh.length = cap
  len_le : len.toNat ≤ cap
  sym : ∀ x ∈ bh.take len.toNat, x < 64
  tail : ∀ x ∈ bh.drop len.toNat, x = 0
  norm : norm = true → collapse (bh.take len.toNat) = bh.take len.toNat

structure Valid (s2 : Nat) (norm : Bool) (h : FH) : Prop where
  log : h.log < 31
  b1 : BhValid FULL_SIZE norm h.bh1 h.len1
  b2 : BhValid s2 norm h.bh2 h.len2

theorem bhValid_iff {cap : Nat} {norm : Bool} {bh : List UInt8} {len : UInt8} (harr : bh.length = cap) :
    BhValid cap norm bh len ↔ len.toNat ≤ cap ∧ verifyBlockHashInput bh len norm true true = true := by
  rw [verifyBlockHashInput, verifyBlockHash_iff bh len true true norm nofun]
  exact ⟨fun h => ⟨h.len_le, fun _ => h.sym, h.norm, fun _ => h.tail⟩,
    fun ⟨hl, hs, hn, ht⟩ => ⟨harr, hl, hs rfl, ht rfl, hn⟩⟩

/-- the model's `is_valid` decides `Valid` (array lengths are fixed by the Rust type) -/
theorem isValid_iff (s2 : Nat) (norm : Bool) (h : FH) (h1 : h.bh1.length = FULL_SIZE) (h2 : h.bh2.length = s2) :
    FH.isValid s2 norm h = true ↔ Valid s2 norm h := by
  simp only [FH.isValid, BlockSize.isLogValid_iff, Bool.and_eq_true, decide_eq_true_eq]
  exact ⟨fun ⟨⟨⟨⟨hl, n1⟩, n2⟩, v1⟩, v2⟩ =>
      ⟨hl, (bhValid_iff h1).mpr ⟨n1, v1⟩, (bhValid_iff h2).mpr ⟨n2, v2⟩⟩,
    fun ⟨hl, b1, b2⟩ =>
      ⟨⟨⟨⟨hl, b1.len_le⟩, b2.len_le⟩, ((bhValid_iff h1).mp b1).2⟩, ((bhValid_iff h2).mp b2).2⟩⟩

theorem Valid.isValid {s2 : Nat} {norm : Bool} {h : FH} (hv : Valid s2 norm h) : FH.isValid s2 norm h = true :=
  (isValid_iff s2 norm h hv.b1.arr hv.b2.arr).mpr hv

/-- what `BhValid` asks of the content `bh[..len]` -/
structure Content (cap : Nat) (norm : Bool) (x : List UInt8) : Prop where
  len_le : x.length ≤ cap
  sym : ∀ s ∈ x, s < 64
  norm : norm = true → collapse x = x

namespace Content
variable {cap cap' : Nat} {norm : Bool} {x : List UInt8}

theorem toRaw (h : Content cap norm x) : Content cap false x := ⟨h.len_le, h.sym, nofun⟩

theorem mono (h : Content cap norm x) (hx : x.length ≤ cap') : Content cap' norm x := ⟨hx, h.sym, h.norm⟩

theorem collapsed (h : Content cap norm x) : Content cap true (collapse x) :=
  ⟨Nat.le_trans (collapse_length_le x) h.len_le, fun s hs => h.sym s (collapse_mem x s hs),
   fun _ => collapse_idem x⟩

theorem bhValid (h : Content cap norm x) (hcap : cap ≤ 255) :
    BhValid cap norm (padTo x cap 0) x.length.toUInt8 := by
  have t := toNat_toUInt8 _ (Nat.le_trans h.len_le hcap)
  refine ⟨length_padTo 0 h.len_le, by rw [t]; exact h.len_le, ?_, ?_, ?_⟩
  · rw [t, take_padTo]; exact h.sym
  · rw [t, drop_padTo]; exact fun s hs => (List.mem_replicate.mp hs).2
  · rw [t, take_padTo]; exact h.norm

end Content

namespace BhValid
variable {cap : Nat} {norm : Bool} {bh : List UInt8} {len : UInt8}

theorem length_take (hv : BhValid cap norm bh len) : (bh.take len.toNat).length = len.toNat := by
  rw [List.length_take, hv.arr]; exact Nat.min_eq_left hv.len_le

theorem content (hv : BhValid cap norm bh len) : Content cap norm (bh.take len.toNat) :=
  ⟨by rw [hv.length_take]; exact hv.len_le, hv.sym, hv.norm⟩

theorem eq_padTo (hv : BhValid cap norm bh len) : bh = padTo (bh.take len.toNat) cap 0 :=
  eq_padTo_take hv.arr hv.len_le hv.tail

theorem len_eq (hv : BhValid cap norm bh len) : len = (bh.take len.toNat).length.toUInt8 := by
  rw [hv.length_take]; exact (UInt8.ofNat_toNat).symm

theorem toRaw (hv : BhValid cap norm bh len) : BhValid cap false bh len :=
  ⟨hv.arr, hv.len_le, hv.sym, hv.tail, nofun⟩

end BhValid

def ofContent (s2 : Nat) (log : UInt8) (x y : List UInt8) : FH :=
  { bh1 := padTo x FULL_SIZE 0, bh2 := padTo y s2 0, len1 := x.length.toUInt8, len2 := y.length.toUInt8, log := log }

theorem valid_ofContent {s2 : Nat} {norm : Bool} {log : UInt8} {x y : List UInt8} (hs2 : s2 ≤ 255)
    (hl : log < 31) (hx : Content FULL_SIZE norm x) (hy : Content s2 norm y) :
    Valid s2 norm (ofContent s2 log x y) :=
  ⟨hl, hx.bhValid (by decide), hy.bhValid hs2⟩

theorem blockHash1_ofContent (s2 : Nat) (log : UInt8) {x : List UInt8} (y : List UInt8) (hx : x.length ≤ 255) :
    (ofContent s2 log x y).blockHash1 = x := by
  rw [blockHash1, ofContent, toNat_toUInt8 _ hx, take_padTo]

theorem blockHash2_ofContent (s2 : Nat) (log : UInt8) (x : List UInt8) {y : List UInt8} (hy : y.length ≤ 255) :
    (ofContent s2 log x y).blockHash2 = y := by
  rw [blockHash2, ofContent, toNat_toUInt8 _ hy, take_padTo]

theorem Valid.eq_ofContent {s2 : Nat} {norm : Bool} {h : FH} (hv : Valid s2 norm h) :
    h = ofContent s2 h.log h.blockHash1 h.blockHash2 := by
  unfold ofContent blockHash1 blockHash2
  rw [← hv.b1.eq_padTo, ← hv.b2.eq_padTo, ← hv.b1.len_eq, ← hv.b2.len_eq]

theorem Valid.content1 {s2 : Nat} {norm : Bool} {h : FH} (hv : Valid s2 norm h) :
    Content FULL_SIZE norm h.blockHash1 := hv.b1.content

theorem Valid.content2 {s2 : Nat} {norm : Bool} {h : FH} (hv : Valid s2 norm h) :
    Content s2 norm h.blockHash2 := hv.b2.content

theorem Valid.toRaw {s2 : Nat} {norm : Bool} {h : FH} (hv : Valid s2 norm h) : Valid s2 false h :=
  ⟨hv.log, hv.b1.toRaw, hv.b2.toRaw⟩

theorem Valid.ext {s2 : Nat} {norm : Bool} {a b : FH} (ha : Valid s2 norm a) (hb : Valid s2 norm b)
    (h : abs a = abs b) : a = b := by
  simp only [abs, Prod.mk.injEq] at h
  rw [ha.eq_ofContent, hb.eq_ofContent, UInt8.toNat_inj.mp h.1, h.2.1, h.2.2]

end FH

theorem normalizeBlockHash_padTo {cap : Nat} {x : List UInt8} (hx : x.length ≤ cap) (hcap : cap ≤ 255)
    (hs : ∀ s ∈ x, s ≠ b64Invalid) :
    normalizeBlockHashInPlace (padTo x cap 0) x.length.toUInt8 false =
      (padTo (collapse x) cap 0, (collapse x).length.toUInt8) := by
  have hout : normList (((padTo x cap 0).drop 0).take (x.length - 0)) 0 b64Invalid = collapse x := by
    rw [List.drop_zero, Nat.sub_zero, take_padTo, normList_eq_collapse x hs]
  have hc := collapse_length_le x
  -- the stale cells between the new and the old length are cleared; behind them were zeros already
  have hfill : fillSlice (setSlice (padTo x cap 0) 0 (collapse x)) (collapse x).length x.length 0 =
      padTo (collapse x) cap 0 := by
    rw [fillSlice_setSlice _ _ 0 hc, drop_padTo, List.append_assoc, List.replicate_append_replicate,
      show x.length - (collapse x).length + (cap - x.length) = cap - (collapse x).length by omega, padTo]
  simp only [normalizeBlockHashInPlace, Bool.false_eq_true, if_false, toNat_toUInt8 _ (Nat.le_trans hx hcap)]
  rw [normLoop_spec _ _ 0 0 _ 0 (Nat.le_refl 0) (Nat.zero_le _) (by rw [length_padTo 0 hx]; exact hx), hout,
    Nat.zero_add, hfill]

namespace FH

theorem normalize_ofContent {s2 : Nat} (log : UInt8) {x y : List UInt8} (hs2 : s2 ≤ 255)
    (hx : Content FULL_SIZE false x) (hy : Content s2 false y) :
    normalize false (ofContent s2 log x y) = ofContent s2 log (collapse x) (collapse y) := by
  simp only [normalize, normalizeInPlaceInternal, ofContent,
    normalizeBlockHash_padTo hx.len_le (by decide) (sym_ne_invalid hx.sym),
    normalizeBlockHash_padTo hy.len_le hs2 (sym_ne_invalid hy.sym)]

theorem Valid.normalize {s2 : Nat} {h : FH} (hs2 : s2 ≤ 255) (hv : Valid s2 false h) :
    FH.normalize false h = ofContent s2 h.log (collapse h.blockHash1) (collapse h.blockHash2) := by
  conv => lhs; rw [hv.eq_ofContent]
  exact normalize_ofContent h.log hs2 hv.b1.content hv.b2.content

end FH
end Ffuzzy
