/-
  Proof obligations over the tables REGENERATED from the compiled crate on every run
  (`FfuzzyModel/Generated/Tables.lean`): each table equals the model's defining function on its
  whole (finite) domain.  All by kernel evaluation over the complete table.
-/
import FfuzzyModel.Generated.Tables
import FfuzzyModel.Base64
import FfuzzyModel.BlockSize
import FfuzzyModel.Fnv
import FfuzzyModel.Hash
import FfuzzyModel.Generator
import FfuzzyModel.PosArray
namespace Ffuzzy.Tables

theorem b64Alphabet_eq : Generated.b64Alphabet = b64Alphabet := by decide +kernel

theorem b64Rev_eq :
    Generated.b64Rev = (List.range 256).map (fun c => b64Index c.toUInt8) := by decide +kernel

theorem blockSizeStr_eq :
    Generated.blockSizeStr = (List.range 31).map (fun n => BlockSize.str n.toUInt8) := by decide +kernel

theorem fromLog_eq :
    Generated.fromLog = (List.range 31).map (fun n => (BlockSize.fromLogInternal n.toUInt8).toNat) := by
  decide +kernel

theorem fromLog_closed : Generated.fromLog = (List.range 31).map (fun n => 3 * 2 ^ n) := by decide +kernel

theorem logFromValid_eq :
    Generated.logFromValid =
      (List.range 31).map (fun n => (BlockSize.logFromValidInternal (3 * 2 ^ n).toUInt32).toNat) := by
  decide +kernel

theorem logFromValid_closed : Generated.logFromValid = List.range 31 := by decide +kernel

theorem fnvInit_eq : Generated.fnvInit = fnvInit.toNat := by decide +kernel

theorem fnvRows_eq :
    Generated.fnvRows =
      (List.range 64).map (fun s => (List.range 256).map (fun c => fnvStep s.toUInt8 c.toUInt8)) :=
  -- through `==`: the kernel evaluates `List.beq` on 16384 entries faster than the `Decidable` instance
  eq_of_beq (by decide +kernel)

/-- the window size and the window bit widths stand against literals: the model writes them out (`replicate 7` in
    Rolling.lean, `<<< 42` in Compare.lean) -/
theorem consts_eq :
    Generated.MIN = BlockSize.MIN.toNat ∧ Generated.NUM_VALID = BlockSize.NUM_VALID ∧
    Generated.FULL_SIZE = FULL_SIZE ∧ Generated.HALF_SIZE = HALF_SIZE ∧
    Generated.MAX_SEQUENCE_SIZE = MAX_SEQUENCE_SIZE ∧
    Generated.MIN_LCS_FOR_COMPARISON = MIN_LCS_FOR_COMPARISON ∧
    Generated.WINDOW_SIZE = 7 ∧
    Generated.MAX_INPUT_SIZE = Gen.MAX_INPUT_SIZE ∧ Generated.MAX_INPUT_SIZE = 64 * (3 * 2 ^ 30) ∧
    Generated.MIN_RECOMMENDED_INPUT_SIZE = Gen.MIN_RECOMMENDED_INPUT_SIZE ∧
    Generated.CAPPING_BORDER = PA.CAPPING_BORDER ∧
    Generated.MAX_LEN_IN_STR = FH.maxLenInStr 64 ∧
    Generated.MAX_LEN_IN_STR_SHORT = FH.maxLenInStr 32 ∧
    Generated.MAX_LEN_IN_STR_LONG = FH.maxLenInStr 64 ∧
    Generated.NUMERIC_WINDOW_BITS = 42 ∧ Generated.NUMERIC_WINDOW_MASK = 2 ^ 42 - 1 ∧
    Generated.INDEX_WINDOW_BITS = 47 ∧ Generated.INDEX_WINDOW_MASK = 2 ^ 47 - 1 := by
  decide +kernel

/-- the capping border is the least `n` with `2^n · 7 ≥ 100` -/
theorem cappingBorder_least :
    2 ^ PA.CAPPING_BORDER * MIN_LCS_FOR_COMPARISON ≥ 100 ∧
    2 ^ (PA.CAPPING_BORDER - 1) * MIN_LCS_FOR_COMPARISON < 100 := by decide

end Ffuzzy.Tables
