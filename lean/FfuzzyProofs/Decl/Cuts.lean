/-
  Reference engine = declarative specification: the rolling values and cut positions of the
  declarative digest (`Spec/Ctph.lean`) satisfy the step recurrences of the reference engine.
-/
import FfuzzyModel.Spec.Ctph
import FfuzzyProofs.Trig
import FfuzzyProofs.RollingProof
namespace Ffuzzy.Decl
open Ffuzzy.Spec Ffuzzy.Prim

theorem rollValsAux_snoc (cs : List UInt8) : ∀ (q : List UInt8) (c : UInt8),
    rollValsAux (wof q) (cs ++ [c]) = rollValsAux (wof q) cs ++ [rollSpec (q ++ cs ++ [c])] := by
  induction cs with
  | nil => intro q c; simp only [rollValsAux, List.nil_append, List.append_nil, rollSpec_eq_wof, wof_snoc]
  | cons x xs ih =>
    intro q c
    rw [List.cons_append, rollValsAux, rollValsAux, ← wof_snoc, ih, List.append_assoc q [x] xs]
    rfl

theorem rollVals_snoc (p : List UInt8) (c : UInt8) : rollVals (p ++ [c]) = rollVals p ++ [rollSpec (p ++ [c])] :=
  rollValsAux_snoc p [] c

theorem rollVals_length (p : List UInt8) : (rollVals p).length = p.length := by
  suffices h : ∀ w, (rollValsAux w p).length = p.length from h _
  induction p with
  | nil => exact fun _ => rfl
  | cons c cs ih => exact fun w => congrArg (· + 1) (ih _)

theorem cuts_snoc (rv : List UInt32) (v : UInt32) (k : Nat) :
    cuts (rv ++ [v]) k =
      cuts rv k ++ (if v.toNat % (3 * 2 ^ k) = 3 * 2 ^ k - 1 then [rv.length + 1] else []) := by
  unfold cuts
  rw [List.zipIdx_append, List.filter_append, List.map_append, List.zipIdx_singleton, List.filter_cons, List.filter_nil]
  by_cases h : v.toNat % (3 * 2 ^ k) = 3 * 2 ^ k - 1
  · simp only [h, decide_true, if_true, List.map_cons, List.map_nil, Nat.zero_add]
  · simp only [h, decide_false, Bool.false_eq_true, if_false, List.map_nil]

theorem cuts_rollVals_snoc (p : List UInt8) (c : UInt8) (k : Nat) :
    cuts (rollVals (p ++ [c])) k =
      cuts (rollVals p) k ++ (if trig k (rollSpec (p ++ [c])) = true then [p.length + 1] else []) := by
  rw [rollVals_snoc, cuts_snoc, rollVals_length, trig_eq_mod]
  simp only [decide_eq_true_eq]

theorem cuts_31 (rv : List UInt32) : cuts rv 31 = [] := by
  unfold cuts
  rw [List.filter_eq_nil_iff.mpr, List.map_nil]
  intro x _
  have := x.1.toNat_lt
  simp only [decide_eq_true_eq]
  omega

theorem cuts_nil (k : Nat) : cuts (rollVals []) k = [] := rfl

end Ffuzzy.Decl
