/-
  Reference engine = declarative specification: what one level of the reference engine holds after a
  prefix, in terms of the declarative cut positions.
-/
import FfuzzyProofs.Decl.Cuts
import FfuzzyProofs.GenSim.NaiveFacts
namespace Ffuzzy.Decl
open Ffuzzy.Spec Ffuzzy.GenSim

/-- 6-bit FNV of `p[lo..hi)` -/
def H (p : List UInt8) (lo hi : Nat) : UInt8 := fnvUpdate fnvInit ((p.drop lo).take (hi - lo))

/-- the same piece, cut the other way round: no side condition on `lo`, `hi` -/
theorem H_eq (p : List UInt8) (lo hi : Nat) : H p lo hi = fnvUpdate fnvInit ((p.take hi).drop lo) := by
  rw [H, List.drop_take]

theorem H_snoc_old (p : List UInt8) (c : UInt8) (lo hi : Nat) (hhi : hi ≤ p.length) : H (p ++ [c]) lo hi = H p lo hi := by
  rw [H_eq, H_eq, List.take_append_of_le_length hhi]

theorem H_snoc_end (p : List UInt8) (c : UInt8) (lo : Nat) (hlo : lo ≤ p.length) :
    H (p ++ [c]) lo (p.length + 1) = fnvStep (H p lo p.length) c := by
  rw [H_eq, H_eq, List.take_of_length_le (by simp), List.take_length, List.drop_append_of_le_length hlo,
    fnvUpdate, List.foldl_append]
  rfl

theorem H_empty (p : List UInt8) (n : Nat) : H p n n = fnvInit := by
  rw [H, Nat.sub_self, List.take_zero]; rfl

/-- start of the piece the running hash with piece limit `m + 1` is accumulating
    (the `if` only spells out the empty case: `startAt_eq_getD`) -/
def startAt (cs : List Nat) (m : Nat) : Nat := if cs.length = 0 then 0 else cs.getD (min cs.length m - 1) 0

/-- start of piece `j` -/
def prevCut (cs : List Nat) (j : Nat) : Nat := if j = 0 then 0 else cs.getD (j - 1) 0

theorem startAt_eq_getD (cs : List Nat) (m : Nat) : startAt cs m = cs.getD (min cs.length m - 1) 0 := by
  unfold startAt
  split
  · next h => rw [List.length_eq_zero_iff.mp h]; rfl
  · rfl

theorem startAt_eq_prevCut (cs : List Nat) (m : Nat) (hm : 0 < m) : startAt cs m = prevCut cs (min cs.length m) := by
  unfold startAt prevCut
  by_cases h : cs.length = 0
  · rw [if_pos h, if_pos (by omega)]
  · rw [if_neg h, if_neg (by omega)]

theorem prevCut_snoc (cs : List Nat) (x j : Nat) (hj : j ≤ cs.length) : prevCut (cs ++ [x]) j = prevCut cs j := by
  unfold prevCut
  split
  · rfl
  · rw [getD_append_left _ _ (by omega)]

theorem prevCut_snoc_length (cs : List Nat) (x : Nat) : prevCut (cs ++ [x]) (cs.length + 1) = x := by
  rw [prevCut, if_neg (Nat.succ_ne_zero _), Nat.add_sub_cancel, getD_concat_length]

/-- one level of the reference engine after the prefix `p`, described by the cut positions `cs` -/
structure LInv (c : Ctx) (p : List UInt8) (cs : List Nat) : Prop where
  idx : c.idx = min cs.length 63
  cell : ∀ j, j < c.idx → c.bh.getD j NIL = H p (prevCut cs j) (cs.getD j 0)
  c63 : c.bh.getD 63 NIL = if 64 ≤ cs.length then H p (cs.getD 62 0) (cs.getLast?.getD 0) else NIL
  hF : c.hFull = H p (startAt cs 63) p.length
  hH : c.hHalf = H p (startAt cs 31) p.length
  ch : c.chHalf = if 32 ≤ cs.length then H p (cs.getD 30 0) (cs.getLast?.getD 0) else NIL
  bnd : ∀ x ∈ cs, x ≤ p.length
  size : c.bh.size = 64

theorem linv_new : LInv Ctx.new [] [] :=
  ⟨rfl, fun _ hj => absurd hj (Nat.not_lt_zero _), getD_replicate_self 64 63 NIL, rfl, rfl, rfl,
    fun _ hx => absurd hx List.not_mem_nil, WF_new.size⟩

theorem getD_le (cs : List Nat) (j n : Nat) (h : ∀ x ∈ cs, x ≤ n) : cs.getD j 0 ≤ n := by
  rw [List.getD_eq_getElem?_getD]
  cases hj : cs[j]? with
  | none => exact Nat.zero_le _
  | some x => exact h x (List.mem_of_getElem? hj)

theorem startAt_le (cs : List Nat) (m n : Nat) (h : ∀ x ∈ cs, x ≤ n) : startAt cs m ≤ n :=
  startAt_eq_getD cs m ▸ getD_le cs _ n h

theorem getLast_le (cs : List Nat) (n : Nat) (h : ∀ x ∈ cs, x ≤ n) : cs.getLast?.getD 0 ≤ n := by
  cases hl : cs.getLast? with
  | none => simp
  | some x => exact h x (List.mem_of_getLast? hl)

/-- What a level keeps for one piece limit `m + 1` (64, and 32 for the truncated block hash 2): the running hash
    `r` of the piece in progress and the character `x` of the piece that absorbs everything past the limit. -/
structure Lane (p : List UInt8) (cs : List Nat) (m : Nat) (r x : UInt8) : Prop where
  run : r = H p (startAt cs m) p.length
  last : x = if m + 1 ≤ cs.length then H p (prevCut cs m) (cs.getLast?.getD 0) else NIL

section
variable {c : Ctx} {p : List UInt8} {cs : List Nat} {m : Nat} {r x : UInt8}

theorem LInv.full (h : LInv c p cs) : Lane p cs 63 c.hFull (c.bh.getD 63 NIL) := ⟨h.hF, h.c63⟩

theorem LInv.half (h : LInv c p cs) : Lane p cs 31 c.hHalf c.chHalf := ⟨h.hH, h.ch⟩

theorem Lane.upd (h : Lane p cs m r x) (hb : ∀ t ∈ cs, t ≤ p.length) (ch : UInt8) :
    Lane (p ++ [ch]) cs m (fnvStep r ch) x := by
  refine ⟨?_, ?_⟩
  · rw [h.run, List.length_append, List.length_singleton, H_snoc_end _ _ _ (startAt_le cs m _ hb)]
  · rw [h.last, H_snoc_old _ _ _ _ (getLast_le cs _ hb)]

/-- a cut at the end of `p`; `b` is the engine's test for "below the limit".  Below the limit the piece in progress
    is closed and a new one starts; at the limit it goes on, and its hash so far is kept as the last character. -/
theorem Lane.store (h : Lane p cs m r x) (hm : 0 < m) (b : Prop) [Decidable b] (hb : b ↔ cs.length < m) :
    Lane p (cs ++ [p.length]) m (if b then fnvInit else r) (if b then NIL else r) := by
  have hlen : (cs ++ [p.length]).length = cs.length + 1 := List.length_append
  by_cases hc : cs.length < m
  · rw [if_pos (hb.mpr hc), if_pos (hb.mpr hc)]
    constructor
    case run => rw [startAt_eq_prevCut _ _ hm, hlen, Nat.min_eq_left hc, prevCut_snoc_length, H_empty]
    case last => rw [if_neg (by omega)]
  · rw [if_neg (mt hb.mp hc), if_neg (mt hb.mp hc), h.run, startAt_eq_prevCut _ _ hm, Nat.min_eq_right (by omega)]
    constructor
    case run => rw [startAt_eq_prevCut _ _ hm, hlen, Nat.min_eq_right (by omega), prevCut_snoc _ _ _ (by omega)]
    case last => rw [if_pos (by omega), prevCut_snoc _ _ _ (by omega), List.getLast?_concat, Option.getD_some]

theorem linv_upd (ch : UInt8) (h : LInv c p cs) : LInv (upd ch c) (p ++ [ch]) cs := by
  have hf := h.full.upd h.bnd ch
  have hh := h.half.upd h.bnd ch
  constructor
  case idx =>
    rw [upd_idx]
    exact h.idx
  case cell =>
    intro j hj
    rw [upd_idx] at hj
    rw [upd_bh, h.cell j hj, H_snoc_old _ _ _ _ (getD_le cs j _ h.bnd)]
  case c63 =>
    rw [upd_bh]
    exact hf.last
  case hF =>
    rw [upd_hFull]
    exact hf.run
  case hH =>
    rw [upd_hHalf]
    exact hh.run
  case ch =>
    rw [upd_chHalf]
    exact hh.last
  case bnd =>
    intro x hx
    rw [List.length_append]
    exact Nat.le_add_right_of_le (h.bnd x hx)
  case size =>
    rw [upd_bh]
    exact h.size

theorem linv_store (h : LInv c p cs) : LInv c.storePiece p (cs ++ [p.length]) := by
  have hidx := h.idx
  have hsz := h.size
  have hf := h.full.store (by omega) (c.idx < 63) (by omega)
  have hh := h.half.store (by omega) (c.idx + 1 < 32) (by omega)
  constructor
  case idx =>
    rw [storePiece_idx, List.length_append, List.length_singleton]
    split <;> omega
  case cell =>
    intro j hj
    rw [storePiece_idx] at hj
    have hjl : j ≤ cs.length := by split at hj <;> omega
    rw [storePiece_bh, prevCut_snoc _ _ _ hjl]
    by_cases e : j = c.idx
    · -- the cell written now: `idx < 63`, so it is piece `cs.length`, which the running hash has been accumulating
      have hL : c.idx = cs.length := by split at hj <;> omega
      rw [e, getD_setIfInBounds_same _ _ _ _ (by omega), h.hF, startAt_eq_prevCut _ _ (by omega), hL,
        getD_concat_length, Nat.min_eq_left (by omega)]
    · have hj' : j < c.idx := by split at hj <;> omega
      rw [getD_setIfInBounds_ne _ _ _ _ _ (Ne.symm e), h.cell j hj', getD_append_left _ _ (by omega)]
  case c63 =>
    refine Eq.trans ?_ hf.last
    rw [storePiece_bh, getD_setIfInBounds _ _ _ _ _ (by omega)]
    split
    · next e => rw [if_neg (by omega)]
    · rw [h.c63, if_neg (by omega), if_pos (by omega)]
  case hF =>
    rw [storePiece_hFull]
    exact hf.run
  case hH =>
    rw [storePiece_hHalf]
    exact hh.run
  case ch =>
    rw [storePiece_chHalf]
    exact hh.last
  case bnd =>
    exact List.forall_mem_append.mpr ⟨h.bnd, fun x hx => Nat.le_of_eq (List.mem_singleton.mp hx)⟩
  case size =>
    rw [storePiece_bh, Array.size_setIfInBounds]
    exact hsz

end

theorem linv_feed (p : List UInt8) : ∀ k, k < 32 → LInv ((Naive.feed p).at k) p (cuts (rollVals p) k) := by
  induction p using List.snoc_induction with
  | hnil => intro k _; rw [show Naive.feed [] = Naive.new from rfl, at_new, cuts_nil]; exact linv_new
  | hsnoc p c ih =>
    intro k hk
    have hN := ninv_feed p
    have hv : vOf (Naive.feed p) c = rollSpec (p ++ [c]) := by
      rw [vOf, hN.roll, ← Prim.roll_closed_form]
      simp [Roll.update, List.foldl_append]
    rw [feed_snoc, at_step _ p c hN k hk, hv, cuts_rollVals_snoc p c k]
    have hu : LInv (mid (Naive.feed p) c k) _ _ := linv_upd c (ih k hk)
    split
    · next ht =>
      have := linv_store hu
      simpa using this
    · next ht =>
      rw [List.append_nil]
      exact hu

theorem level31_virgin (p : List UInt8) : ((Naive.feed p).at 31).idx = 0 := (ninv_feed p).top

end Ffuzzy.Decl
