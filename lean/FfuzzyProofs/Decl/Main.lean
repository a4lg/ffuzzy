/-
  Reference engine = declarative specification: the block size choice and the whole digest.
-/
import FfuzzyProofs.Decl.Digest
namespace Ffuzzy.Decl
open Ffuzzy.Spec Ffuzzy.GenSim

/-- the declarative initial index and the engine's agree up to the cap at 30 -/
theorem initial_eq (n : Nat) : min 30 (initialLog n) = min 30 (Gen.logBlockSizeFromInputSize n 0) := by
  obtain ⟨hup, hlow⟩ := log_spec n
  generalize Gen.logBlockSizeFromInputSize n 0 = L at hup hlow
  unfold initialLog
  -- `L` is the least index whose size bound covers `n`: below 64 it is what `find?` returns
  by_cases hL : L < 64
  · rw [List.find?_range_eq_some.mpr ⟨decide_eq_true hup, List.mem_range.mpr hL, fun m hm => by simpa using hlow m hm⟩]
    rfl
  · rw [List.find?_range_eq_none.mpr fun m hm => by simpa using hlow m (by omega)]
    show min 30 63 = min 30 L
    omega

theorem guess_eq (bs : List UInt8) : ∀ K, K ≤ 30 → naiveGuess (Naive.feed bs) K = chooseLog.go (rollVals bs) K := by
  intro K
  induction K with
  | zero => intro _; rfl
  | succ K ih =>
    intro hK
    rw [naiveGuess, chooseLog.go, (linv_feed bs (K + 1) (by omega)).idx]
    split
    · exact ih (by omega)
    · rfl

theorem rollSpec_nil : rollSpec [] = 0 := by decide

theorem nz_eq (bs : List UInt8) :
    ((Naive.feed bs).roll.value != 0) = ((rollVals bs).getLast?.getD 0 != 0) := by
  rw [(ninv_feed bs).roll, Prim.roll_closed_form]
  induction bs using List.snoc_induction with
  | hnil => rw [rollSpec_nil]; rfl
  | hsnoc p c _ => rw [rollVals_snoc]; simp

/-- level 31 has no cuts, so its declarative digest is the one character the specification names -/
theorem levelDigest_31 (bs : List UInt8) (cap : Nat) (hcap : 0 < cap) :
    levelDigest bs.toArray (cuts (rollVals bs) 31) cap = ([], pieceHash bs.toArray 0 bs.length) := by
  rw [cuts_31]
  unfold levelDigest
  simp only [List.take_nil, List.zip_nil_right, List.map_nil, List.length_nil, List.getLast?_nil,
    Option.getD_none, List.size_toArray, if_neg (Nat.not_le.mpr hcap)]

/-- the reference engine computes the declarative CTPH digest -/
theorem naive_eq_declarative (bs : List UInt8) (trunc : Bool) (s2 : Nat) (hs2 : s2 = 32 ∨ s2 = 64) :
    naiveDigest bs trunc s2 = Spec.digest bs trunc s2 := by
  have hN := ninv_feed bs
  unfold naiveDigest Naive.digest Spec.digest digestOf analyze
  simp only [List.size_toArray]
  rw [hN.size]
  by_cases hbig : Gen.MAX_INPUT_SIZE < bs.length
  · rw [if_pos hbig, if_pos hbig]
  · rw [if_neg hbig, if_neg hbig]
    have hk : naiveGuess (Naive.feed bs) (min 30 (Gen.logBlockSizeFromInputSize bs.length 0)) =
        chooseLog (rollVals bs) bs.length := by
      unfold chooseLog
      rw [initial_eq]
      exact guess_eq bs _ (Nat.min_le_left _ _)
    have hkle : chooseLog (rollVals bs) bs.length ≤ 30 := by
      rw [← hk]
      exact Nat.le_trans (naiveGuess_le _ _) (Nat.min_le_left _ _)
    rw [hk, nz_eq]
    generalize chooseLog (rollVals bs) bs.length = k at hkle
    -- the specification's special case for level 31 is the general case: that level has no cuts
    have h31 : (if k + 1 ≤ 30 then levelDigest bs.toArray (cuts (rollVals bs) (k + 1)) (if trunc = true then 32 else 64)
        else ([], pieceHash bs.toArray 0 bs.length)) =
        levelDigest bs.toArray (cuts (rollVals bs) (k + 1)) (if trunc = true then 32 else 64) := by
      split
      · rfl
      · rw [show k + 1 = 31 by omega, levelDigest_31 _ _ (by split <;> omega)]
    rw [h31, digest1_eq _ bs _ (linv_feed bs k (by omega)),
      digest2_eq _ bs _ (linv_feed bs (k + 1) (by omega)) _ trunc s2 hs2]
    generalize withTail (levelDigest bs.toArray (cuts (rollVals bs) (k + 1)) (if trunc = true then 32 else 64)).1
      (levelDigest bs.toArray (cuts (rollVals bs) (k + 1)) (if trunc = true then 32 else 64)).2
      (if trunc = true then 32 else 64) ((rollVals bs).getLast?.getD 0 != 0) = B
    cases hc : (!trunc && decide (s2 = 32) && decide (B.length > 32)) <;> simp

end Ffuzzy.Decl
