/-
  `Decl.trig_iff_mod` alone: its statement reads `2 ^ k` on ℕ through Mathlib's monoid power, the one reason why a
  module of this development imports Mathlib.  In core Lean, for every `k`: `Spec.trig_eq_mod`.
-/
import FfuzzyProofs.Trig
import Mathlib.Algebra.Group.Nat.Defs
namespace Ffuzzy.Decl
open Ffuzzy.Spec

theorem trig_iff_mod (k : Nat) (hk : k ≤ 30) (v : UInt32) :
    trig k v = decide (v.toNat % (3 * 2 ^ k) = 3 * 2 ^ k - 1) :=
  trig_eq_mod k v

end Ffuzzy.Decl
