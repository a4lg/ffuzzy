/-
  Reference engine = declarative specification: the digest characters of a level, read off its invariant.
-/
import FfuzzyProofs.Decl.Level
import FfuzzyProofs.Fnv
import FfuzzyProofs.GenSim.DigestValid
namespace Ffuzzy.Decl
open Ffuzzy.Spec Ffuzzy.GenSim

theorem pieceHash_eq (p : List UInt8) (lo hi : Nat) : pieceHash p.toArray lo hi = H p lo hi := by
  rw [pieceHash, H, Prim.fnvInit_low6, Prim.fnvUpdate_low6]
  simp only [List.extract_toArray, List.extract_eq_take_drop]
  rfl

theorem H_lt (p : List UInt8) (lo hi : Nat) : H p lo hi < 64 := Prim.fnvUpdate_lt _ fnvInit (by decide)

theorem H_ne_nil (p : List UInt8) (lo hi : Nat) : H p lo hi ≠ NIL := fun e => by
  have hlt := H_lt p lo hi
  rw [e] at hlt
  exact absurd hlt (by decide)

theorem pieces_eq (p : List UInt8) (cs : List Nat) (m : Nat) :
    ((0 :: cs.take m).zip (cs.take m)).map (fun (x : Nat × Nat) => pieceHash p.toArray x.1 x.2) =
      (List.range (min cs.length m)).map (fun j => H p (prevCut cs j) (cs.getD j 0)) := by
  apply List.ext_getElem?
  intro j
  by_cases hj : j < min cs.length m
  · have key : ∀ i, i < min cs.length m → (cs.take m)[i]? = some (cs.getD i 0) := fun i hi => by
      rw [List.getElem?_take, if_pos (by omega), List.getD_eq_getElem?_getD, List.getElem?_eq_getElem (by omega)]
      rfl
    have h1 : (0 :: cs.take m)[j]? = some (prevCut cs j) := by
      cases j with
      | zero => rfl
      | succ i => exact key i (by omega)
    have hz : ((0 :: cs.take m).zip (cs.take m))[j]? = some (prevCut cs j, cs.getD j 0) :=
      List.getElem?_zip_eq_some.mpr ⟨h1, key j hj⟩
    rw [List.getElem?_map, hz, Option.map_some, pieceHash_eq, List.getElem?_map, List.getElem?_range hj]
    rfl
  · rw [List.getElem?_eq_none (by rw [List.length_map, List.length_zip, List.length_cons, List.length_take]; omega),
      List.getElem?_eq_none (by rw [List.length_map, List.length_range]; omega)]

theorem take_getLast (cs : List Nat) (m : Nat) (hm : 1 ≤ m) : (cs.take m).getLast?.getD 0 = startAt cs m := by
  rw [startAt_eq_getD, List.getLast?_eq_getElem?, List.length_take, List.getElem?_take, if_pos (by omega),
    List.getD_eq_getElem?_getD, Nat.min_comm]

theorem levelDigest_eq (p : List UInt8) (cs : List Nat) (m : Nat) (hm : 0 < m) :
    levelDigest p.toArray cs (m + 1) =
      ((List.range (min cs.length m)).map (fun j => H p (prevCut cs j) (cs.getD j 0)) ++
        (if m + 1 ≤ cs.length then [H p (startAt cs m) (cs.getLast?.getD 0)] else []),
       H p (startAt cs m) p.length) := by
  unfold levelDigest
  simp only [Nat.add_sub_cancel, ge_iff_le, pieces_eq]
  simp only [pieceHash_eq, take_getLast cs m hm, List.size_toArray]
  split <;> simp

section
variable {c : Ctx} {p : List UInt8} {cs : List Nat} {m : Nat} {r x : UInt8}

theorem Lane.nil_iff (h : Lane p cs m r x) : (x != NIL) = true ↔ m + 1 ≤ cs.length := by
  rw [h.last, bne_iff_ne]
  by_cases hc : m + 1 ≤ cs.length
  · rw [if_pos hc]
    exact iff_of_true (H_ne_nil _ _ _) hc
  · rw [if_neg hc]
    exact iff_of_false (fun hne => hne rfl) hc

/-- the declarative digest with piece limit `m + 1`, read off the first `m` cells `l` and the lane: the one statement
    behind both block hashes (`m = 63`) and the truncated block hash 2 (`m = 31`) -/
theorem Lane.digest (h : Lane p cs m r x) (hm : 0 < m) (l : List UInt8)
    (hl : l.take (min cs.length m) = (List.range (min cs.length m)).map (fun j => H p (prevCut cs j) (cs.getD j 0))) :
    levelDigest p.toArray cs (m + 1) = (l.take (min cs.length m) ++ if x != NIL then [x] else [], r) := by
  rw [levelDigest_eq p cs m hm, hl, ← h.run]
  by_cases hc : m + 1 ≤ cs.length
  · rw [if_pos hc, if_pos (h.nil_iff.mpr hc), h.last, if_pos hc, startAt_eq_prevCut _ _ hm, Nat.min_eq_right (by omega)]
  · rw [if_neg hc, if_neg (mt h.nil_iff.mp hc)]

theorem LInv.take_cells (h : LInv c p cs) (n : Nat) (hn : n ≤ c.idx) :
    c.bh.toList.take n = (List.range n).map (fun j => H p (prevCut cs j) (cs.getD j 0)) := by
  rw [take_toList _ _ (by have := h.idx; have := h.size; omega)]
  exact List.map_congr_left fun j hj => h.cell j (by have := List.mem_range.mp hj; omega)

theorem LInv.wf (h : LInv c p cs) : WF c := by
  have := h.idx
  exact ⟨h.size, by omega, fun hne => by have := h.full.nil_iff.mp (bne_iff_ne.mpr hne); omega,
    fun hne => by have := h.half.nil_iff.mp (bne_iff_ne.mpr hne); omega⟩

/-- every character of a level is a piece hash, so a base64 index -/
theorem LInv.symok (h : LInv c p cs) : SymOK c := by
  have hidx := h.idx
  constructor
  case cells =>
    intro j hj
    rw [h.cell j hj]
    exact H_lt _ _ _
  case c63 =>
    intro hne
    rw [h.c63] at hne ⊢
    split
    · exact H_lt _ _ _
    · next hc => exact absurd (if_neg hc) hne
  case hF =>
    rw [h.hF]
    exact H_lt _ _ _
  case hH =>
    rw [h.hH]
    exact H_lt _ _ _
  case ch =>
    rw [h.ch]
    split
    · exact Or.inr (H_lt _ _ _)
    · exact Or.inl rfl
  case half =>
    intro h32
    rw [h.ch, if_pos (by omega)]
    exact H_ne_nil _ _ _

theorem LInv.levelDigest_full (h : LInv c p cs) : levelDigest p.toArray cs 64 = (stored c, c.hFull) := by
  have hidx := h.idx
  have hsz := h.size
  rw [h.full.digest (by omega) c.bh.toList (h.take_cells _ (by omega)), stored, count]
  -- a filled 64th cell is the character after the first 63
  split
  · next hc =>
    have := h.full.nil_iff.mp hc
    rw [show c.idx + 1 = 63 + 1 by omega, List.take_add_one, Nat.min_eq_right (by omega), Array.getElem?_toList,
      Array.getD_eq_getD_getElem?, Array.getElem?_eq_getElem (by omega)]
    rfl
  · rw [List.append_nil, hidx]

theorem LInv.levelDigest_half (h : LInv c p cs) :
    levelDigest p.toArray cs 32 = (halfBody c ++ if c.chHalf != NIL then [c.chHalf] else [], c.hHalf) := by
  have hidx := h.idx
  rw [h.half.digest (by omega) c.bh.toList (h.take_cells _ (by omega)), halfBody, halfCount]
  congr 3
  split
  · next hc => have := h.half.nil_iff.mp hc; omega
  · next hc => have := mt h.half.nil_iff.mpr hc; omega

/-- block hash 1 of the reference engine is the declarative one -/
theorem digest1_eq (c : Ctx) (p : List UInt8) (cs : List Nat) (h : LInv c p cs) (nz : Bool) :
    c.digest1 nz = withTail (levelDigest p.toArray cs 64).1 (levelDigest p.toArray cs 64).2 64 nz := by
  rw [digest1_withTail c h.wf, h.levelDigest_full]

end

/-- block hash 2 of the reference engine is the declarative one, in all four output forms -/
theorem digest2_eq (c : Ctx) (p : List UInt8) (cs : List Nat) (h : LInv c p cs) (nz trunc : Bool) (s2 : Nat)
    (hs2 : s2 = 32 ∨ s2 = 64) :
    c.digest2 nz trunc s2 =
      (if !trunc && s2 = 32 &&
          (withTail (levelDigest p.toArray cs (if trunc then 32 else 64)).1
            (levelDigest p.toArray cs (if trunc then 32 else 64)).2 (if trunc then 32 else 64) nz).length > 32
       then .error .outputOverflow
       else .ok (withTail (levelDigest p.toArray cs (if trunc then 32 else 64)).1
            (levelDigest p.toArray cs (if trunc then 32 else 64)).2 (if trunc then 32 else 64) nz)) := by
  cases trunc with
  | true =>
    simp only [Bool.not_true, Bool.false_and, Bool.false_eq_true, if_false, if_true]
    rw [digest2_trunc, h.levelDigest_half]
    cases nz with
    | false => rfl
    | true =>
      -- 32 characters exactly when the half character is there, and then the running hash replaces it
      have hidx := h.idx
      have hsz := h.size
      have hlen : (halfBody c).length = if c.chHalf != NIL then 31 else c.idx := by
        rw [halfBody, halfCount, List.length_take, Array.length_toList]; split <;> omega
      rw [if_pos rfl]
      split at hlen
      · next hc => rw [if_pos hc, withTail_snoc _ _ _ _ (by rw [hlen])]
      · next hc =>
        have := mt h.half.nil_iff.mpr hc
        rw [if_neg hc, List.append_nil, withTail_short _ _ _ (by rw [hlen]; omega)]
  | false =>
    simp only [Bool.not_false, Bool.true_and, Bool.false_eq_true, if_false, Bool.and_eq_true, decide_eq_true_eq]
    rw [digest2_full c h.wf nz s2 hs2, h.levelDigest_full]

end Ffuzzy.Decl
