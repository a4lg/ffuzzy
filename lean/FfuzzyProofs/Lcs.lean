/-
  Textbook LCS: characterisation by common subsequences, symmetry, Lipschitz facts, and
  equality of the quadratic DP used as run-time oracle with the recursive definition.
-/
import FfuzzyModel.Spec.Score
namespace Ffuzzy.Spec
variable {α : Type} [DecidableEq α]

theorem sublist_length_le_lcs : ∀ (a b s : List α), s.Sublist a → s.Sublist b → s.length ≤ lcs a b := by
  intro a b
  induction a, b using lcs.induct with
  | case1 b => intro s ha _; simp [List.sublist_nil.mp ha]
  | case2 x xs => intro s _ hb; simp [List.sublist_nil.mp hb]
  | case3 xs x ys ih =>
    intro s ha hb
    have := ih s.tail ha.tail hb.tail
    rw [lcs, if_pos rfl]
    rw [List.length_tail] at this
    omega
  | case4 x xs y ys hxy ih1 ih2 =>
    intro s ha hb
    rw [lcs, if_neg hxy]
    cases ha with
    | cons _ h => have := ih1 s h hb; omega
    | cons_cons _ h =>
      cases hb with
      | cons _ h' => have := ih2 _ (List.Sublist.cons_cons _ h) h'; omega
      | cons_cons _ h' => exact absurd rfl hxy

theorem exists_sublist_length_eq_lcs :
    ∀ (a b : List α), ∃ s : List α, s.Sublist a ∧ s.Sublist b ∧ s.length = lcs a b := by
  intro a b
  induction a, b using lcs.induct with
  | case1 b => exact ⟨[], by simp, by simp, by simp [lcs]⟩
  | case2 x xs => exact ⟨[], by simp, by simp, by simp [lcs]⟩
  | case3 xs x ys ih =>
    obtain ⟨s, h1, h2, h3⟩ := ih
    exact ⟨x :: s, h1.cons_cons _, h2.cons_cons _, by simp [lcs, h3]⟩
  | case4 x xs y ys hxy ih1 ih2 =>
    obtain ⟨s1, a1, b1, c1⟩ := ih1
    obtain ⟨s2, a2, b2, c2⟩ := ih2
    rw [lcs, if_neg hxy]
    by_cases h : lcs xs (y :: ys) ≤ lcs (x :: xs) ys
    · exact ⟨s2, a2, b2.cons _, by rw [c2]; omega⟩
    · exact ⟨s1, a1.cons _, b1, by rw [c1]; omega⟩

theorem lcs_is_max_common_sublist (a b : List α) :
    (∃ s : List α, s.Sublist a ∧ s.Sublist b ∧ s.length = lcs a b) ∧
    (∀ s : List α, s.Sublist a → s.Sublist b → s.length ≤ lcs a b) :=
  ⟨exists_sublist_length_eq_lcs a b, sublist_length_le_lcs a b⟩

theorem lcs_le_of_forall {a b a' b' : List α} {k : Nat}
    (h : ∀ s : List α, s.Sublist a → s.Sublist b → ∃ t : List α, t.Sublist a' ∧ t.Sublist b' ∧ s.length ≤ t.length + k) :
    lcs a b ≤ lcs a' b' + k := by
  obtain ⟨s, h1, h2, h3⟩ := exists_sublist_length_eq_lcs a b
  obtain ⟨t, t1, t2, ht⟩ := h s h1 h2
  have := sublist_length_le_lcs a' b' t t1 t2
  omega

theorem lcs_reverse (a b : List α) : lcs a.reverse b.reverse = lcs a b :=
  Nat.le_antisymm
    (lcs_le_of_forall (k := 0) fun s h1 h2 =>
      ⟨s.reverse, by simpa using h1.reverse, by simpa using h2.reverse, by rw [List.length_reverse]; omega⟩)
    (lcs_le_of_forall (k := 0) fun s h1 h2 => ⟨s.reverse, h1.reverse, h2.reverse, by rw [List.length_reverse]; omega⟩)

theorem lcs_comm (a b : List α) : lcs a b = lcs b a :=
  have h : ∀ a b : List α, lcs a b ≤ lcs b a + 0 := fun _ _ =>
    lcs_le_of_forall fun s h1 h2 => ⟨s, h2, h1, Nat.le_refl _⟩
  Nat.le_antisymm (h a b) (h b a)

theorem lcs_le_lcs_cons_left (x : α) (a b : List α) : lcs a b ≤ lcs (x :: a) b :=
  lcs_le_of_forall (k := 0) fun s h1 h2 => ⟨s, h1.cons _, h2, Nat.le_refl _⟩

theorem lcs_cons_left_le_succ (x : α) (a b : List α) : lcs (x :: a) b ≤ lcs a b + 1 :=
  lcs_le_of_forall fun s h1 h2 => ⟨s.tail, h1.tail, (List.tail_sublist s).trans h2, by rw [List.length_tail]; omega⟩

theorem lcs_le_lcs_cons_right (y : α) (a b : List α) : lcs a b ≤ lcs a (y :: b) := by
  rw [lcs_comm a b, lcs_comm a (y :: b)]; exact lcs_le_lcs_cons_left y b a

theorem lcs_cons_right_le_succ (y : α) (a b : List α) : lcs a (y :: b) ≤ lcs a b + 1 := by
  rw [lcs_comm a b, lcs_comm a (y :: b)]; exact lcs_cons_left_le_succ y b a

theorem lcs_nil_right (a : List α) : lcs a ([] : List α) = 0 := by cases a <;> simp [lcs]

theorem lcs_le_left (a b : List α) : lcs a b ≤ a.length := by
  obtain ⟨s, h1, _, h3⟩ := exists_sublist_length_eq_lcs a b
  have := h1.length_le; omega

theorem lcs_le_right (a b : List α) : lcs a b ≤ b.length :=
  lcs_comm a b ▸ lcs_le_left b a

theorem lcs_self (a : List α) : lcs a a = a.length := by
  apply Nat.le_antisymm (lcs_le_left a a)
  exact sublist_length_le_lcs a a a (List.Sublist.refl a) (List.Sublist.refl a)

/-- all suffixes, longest first (`List.tails` of Batteries, which this file does not import): the row of the DP for
    `a` is `(tailsL b).map (lcs a)` -/
def tailsL : List α → List (List α)
  | [] => [[]]
  | x :: xs => (x :: xs) :: tailsL xs

omit [DecidableEq α] in
theorem tailsL_length (l : List α) : (tailsL l).length = l.length + 1 := by
  induction l with
  | nil => rfl
  | cons x xs ih => simp [tailsL, ih]

theorem lcsRow_spec (x : α) (xs : List α) :
    ∀ ys : List α, lcsRow x ys ((tailsL ys).map (lcs xs)) = (tailsL ys).map (lcs (x :: xs)) := by
  intro ys
  induction ys with
  | nil => simp [lcsRow, tailsL, lcs_nil_right]
  | cons y ys ih =>
    simp only [tailsL, List.map_cons, lcsRow, List.tail_cons]
    rw [ih]
    congr 1
    cases ys with
    | nil => simp [lcs, tailsL]
    | cons z zs => simp [tailsL, lcs]

theorem lcsDP_eq_lcs (a b : List α) : lcsDP a b = lcs a b := by
  unfold lcsDP
  have h : ∀ a : List α, a.foldr (fun x prev => lcsRow x b prev) (List.replicate (b.length + 1) 0)
      = (tailsL b).map (lcs a) := by
    intro a
    induction a with
    | nil =>
      simp only [List.foldr_nil]
      apply List.ext_getElem
      · simp [tailsL_length]
      · intro i h1 h2; simp [lcs]
    | cons x xs ih => simp only [List.foldr_cons, ih, lcsRow_spec]
  rw [h a]
  cases b <;> simp [tailsL]

theorem editDistanceDP_eq (a b : List UInt8) : editDistanceDP a b = editDistance a b := by
  simp [editDistanceDP, editDistance, lcsDP_eq_lcs]

theorem editDistance_comm (a b : List UInt8) : editDistance a b = editDistance b a := by
  unfold editDistance; rw [lcs_comm a b, Nat.add_comm]

theorem scoreDP_eq : scoreDP = score :=
  congrArg scoreWith (funext fun a => funext (editDistanceDP_eq a))

end Ffuzzy.Spec
