/-
  Run collapsing, `Spec.collapse`: its basic laws, that the in-place loop of
  `normalize_block_hash_in_place_internal` computes it (through a list version of the loop), and that a
  string it leaves alone has no four equal consecutive symbols.
-/
import FfuzzyModel.Spec.Score
import FfuzzyProofs.ListLemmas
namespace Ffuzzy.Collapse
open Ffuzzy.Spec

/-- list version of the in-place loop: same state `(seq, prev)`, no array -/
def normList : List UInt8 → Nat → UInt8 → List UInt8
  | [], _, _ => []
  | curr :: rest, seq, prev =>
    if curr == prev then
      if seq + 1 ≥ MAX_SEQUENCE_SIZE then normList rest MAX_SEQUENCE_SIZE prev
      else curr :: normList rest (seq + 1) prev
    else curr :: normList rest 0 curr

/-- the in-place loop with read cursor `i` and write cursor `l`: it writes, from `l` on, what the list
    version makes of the unread cells `[i, oldLen)`. Each step reads one cell and writes at most one, so
    with `l ≤ i` the writes stay behind the read cursor and the unread cells are still the input's. -/
theorem normLoop_spec (bh : List UInt8) (oldLen i seq : Nat) (prev : UInt8) (l : Nat) :
    l ≤ i → i ≤ oldLen → oldLen ≤ bh.length →
    normLoop bh oldLen i seq prev l =
      (setSlice bh l (normList ((bh.drop i).take (oldLen - i)) seq prev),
        l + (normList ((bh.drop i).take (oldLen - i)) seq prev).length) := by
  -- a step that writes `c` at `l ≤ i`: the unread cells stay as they are, and the write joins the later ones
  have write : ∀ (bh : List UInt8) (i l : Nat) (c : UInt8), l ≤ i → i < bh.length →
      (bh.set l c).drop (i + 1) = bh.drop (i + 1) ∧
      ∀ out : List UInt8, (setSlice (bh.set l c) (l + 1) out, l + 1 + out.length) =
        (setSlice bh l (c :: out), l + (c :: out).length) := by
    intro bh i l c hl hi
    have hll : l < bh.length := Nat.lt_of_le_of_lt hl hi
    refine ⟨List.drop_set_of_lt (Nat.lt_succ_of_le hl), fun out => ?_⟩
    rw [setSlice_set_cons c out hll, List.length_cons, Nat.add_assoc, Nat.add_comm 1]
  fun_induction normLoop bh oldLen i seq prev l with
  | case1 bh i seq prev l hi curr heq hseq ih => -- fourth or later copy of a run: skipped
    intro hl _ hlen
    rw [take_drop_succ 0 hi hlen, normList, if_pos heq, if_pos hseq]
    exact ih (Nat.le_succ_of_le hl) hi hlen
  | case2 bh i seq prev l hi curr heq hseq ih => -- second or third copy: written
    intro hl _ hlen
    have hlen' : oldLen ≤ (bh.set l curr).length := by rw [List.length_set]; exact hlen
    obtain ⟨hrest, hjoin⟩ := write bh i l curr hl (Nat.lt_of_lt_of_le hi hlen)
    rw [take_drop_succ 0 hi hlen, normList, if_pos heq, if_neg hseq, ih (Nat.succ_le_succ hl) hi hlen', hrest, hjoin]
  | case3 bh i seq prev l hi curr heq ih => -- another symbol: written, a run starts
    intro hl _ hlen
    have hlen' : oldLen ≤ (bh.set l curr).length := by rw [List.length_set]; exact hlen
    obtain ⟨hrest, hjoin⟩ := write bh i l curr hl (Nat.lt_of_lt_of_le hi hlen)
    rw [take_drop_succ 0 hi hlen, normList, if_neg heq, ih (Nat.succ_le_succ hl) hi hlen', hrest, hjoin]
  | case4 bh i seq prev l hi => -- all cells read
    intro _ _ _
    rw [show oldLen - i = 0 by omega, List.take_zero, normList, setSlice_nil]
    rfl

theorem collapseAux_sublist (xs : List UInt8) : ∀ p r, (collapseAux xs p r).Sublist xs := by
  induction xs with
  | nil => exact fun _ _ => .slnil
  | cons y ys ih =>
    intro p r
    rw [collapseAux]
    split
    · split
      · exact (ih p r).cons y
      · exact (ih p (r + 1)).cons_cons y
    · exact (ih (some y) 1).cons_cons y

/-- the loop's counter `seq` is the specification's run length less one, both saturating at 3 -/
theorem normList_eq_collapseAux (xs : List UInt8) : ∀ (seq : Nat) (prev : UInt8),
    normList xs seq prev = collapseAux xs (some prev) (min (seq + 1) 3) := by
  induction xs with
  | nil => intro _ _; rfl
  | cons c cs ih =>
    intro seq prev
    simp only [normList, collapseAux, beq_iff_eq, Option.some.injEq, eq_comm (a := prev)]
    split
    · by_cases hs : seq + 1 ≥ MAX_SEQUENCE_SIZE
      · have h3 : 3 ≤ seq + 1 := hs
        rw [if_pos hs, ih, Nat.min_eq_right h3, if_pos (Nat.le_refl 3)]; rfl
      · have h3 : seq + 1 + 1 ≤ 3 := Nat.not_le.mp hs
        rw [if_neg hs, ih, Nat.min_eq_left (Nat.le_of_succ_le h3), if_neg (Nat.not_le.mpr h3), Nat.min_eq_left h3]
    · rw [ih]; rfl

theorem normList_eq_collapse (xs : List UInt8) (h : ∀ x ∈ xs, x ≠ b64Invalid) :
    normList xs 0 b64Invalid = collapse xs := by
  cases xs with
  | nil => rfl
  | cons c cs =>
    have hc : ¬ (c == b64Invalid) = true := by simpa using h c List.mem_cons_self
    rw [normList, if_neg hc, normList_eq_collapseAux]; rfl

theorem collapseAux_idem (xs : List UInt8) : ∀ p r,
    collapseAux (collapseAux xs p r) p r = collapseAux xs p r := by
  induction xs with
  | nil => intro _ _; rfl
  | cons c cs ih =>
    intro p r
    rw [collapseAux]
    by_cases hp : p = some c
    · rw [if_pos hp]
      by_cases hr : r ≥ 3
      · rw [if_pos hr]
        exact ih p r
      · rw [if_neg hr, collapseAux, if_pos hp, if_neg hr, ih]
    · rw [if_neg hp, collapseAux, if_neg hp, ih]

/-- **C06.** normalising twice equals normalising once -/
theorem collapse_idem (xs : List UInt8) : collapse (collapse xs) = collapse xs :=
  collapseAux_idem xs none 0

theorem collapse_length_le (xs : List UInt8) : (collapse xs).length ≤ xs.length :=
  (collapseAux_sublist xs none 0).length_le

theorem collapse_mem (xs : List UInt8) (x : UInt8) (h : x ∈ collapse xs) : x ∈ xs :=
  (collapseAux_sublist xs none 0).mem h

theorem normList_length_le (xs : List UInt8) (seq : Nat) (prev : UInt8) :
    (normList xs seq prev).length ≤ xs.length := by
  rw [normList_eq_collapseAux]; exact (collapseAux_sublist xs _ _).length_le

/-- when `collapseAux` leaves `x :: xs` alone, where `x` continues the run in progress (`r` copies so far) -/
theorem collapseAux_cons_same (x : UInt8) (xs : List UInt8) (r : Nat) :
    collapseAux (x :: xs) (some x) r = x :: xs ↔ r < 3 ∧ collapseAux xs (some x) (r + 1) = xs := by
  rw [collapseAux, if_pos rfl]
  by_cases hr : r ≥ 3
  · rw [if_pos hr]
    refine iff_of_false (fun e => ?_) (fun h => absurd h.1 (Nat.not_lt.mpr hr))
    -- the fourth copy was dropped, so the result is too short
    have := (collapseAux_sublist xs (some x) r).length_le
    rw [e, List.length_cons] at this
    omega
  · rw [if_neg hr, List.cons.injEq, and_iff_right rfl, and_iff_right (Nat.not_le.mp hr)]

/-- when `collapseAux` leaves `x :: xs` alone, where `x` starts a run -/
theorem collapseAux_cons_ne {x : UInt8} {p : Option UInt8} (hp : p ≠ some x) (xs : List UInt8) (r : Nat) :
    collapseAux (x :: xs) p r = x :: xs ↔ collapseAux xs (some x) 1 = xs := by
  rw [collapseAux, if_neg hp, List.cons.injEq, and_iff_right rfl]

/-- no four equal consecutive symbols, in the form in which the position arrays state it
    (`PosInit.isValidAndNormalized_iff`): what holds of a string that collapsing leaves alone -/
def NoRun4 (l : List UInt8) : Prop :=
  ∀ i, i + 3 < l.length → ¬ (l[i]? = l[i + 1]? ∧ l[i + 1]? = l[i + 2]? ∧ l[i + 2]? = l[i + 3]?)

/-- in either case the tail is left alone after some run of at least one `x`: what `collapseAux_noRun4`
    recurses on -/
theorem collapseAux_cons_tail {x : UInt8} {xs : List UInt8} {p : Option UInt8} {r : Nat}
    (h : collapseAux (x :: xs) p r = x :: xs) : ∃ r', 1 ≤ r' ∧ collapseAux xs (some x) r' = xs := by
  by_cases hp : p = some x
  · subst hp
    exact ⟨r + 1, Nat.le_add_left 1 r, ((collapseAux_cons_same x xs r).mp h).2⟩
  · exact ⟨1, Nat.le_refl 1, (collapseAux_cons_ne hp xs r).mp h⟩

theorem collapseAux_noRun4 : ∀ (l : List UInt8) (p : Option UInt8) (r : Nat), collapseAux l p r = l → NoRun4 l
  | [], _, _, _ => fun i hi => by simp at hi
  | x :: xs, p, r, h => by
    obtain ⟨r', hr', h'⟩ := collapseAux_cons_tail h
    intro i hi
    cases i with
    | succ i => exact collapseAux_noRun4 xs _ _ h' i (Nat.lt_of_succ_lt_succ hi)
    | zero =>
      -- a window `x x x x` at the front: the run is at least 1 after the first `x`, 3 after the
      -- third, so the fourth would be dropped
      match xs, hi, h' with
      | [], hi, _ | [_], hi, _ | [_, _], hi, _ => simp at hi
      | b :: c :: d :: ys, _, h' =>
        rintro ⟨e1, e2, e3⟩
        obtain rfl : x = b := Option.some.inj e1
        obtain rfl : x = c := Option.some.inj e2
        obtain rfl : x = d := Option.some.inj e3
        have h1 := (collapseAux_cons_same x _ r').mp h'
        have h2 := (collapseAux_cons_same x _ _).mp h1.2
        have h3 := (collapseAux_cons_same x _ _).mp h2.2
        omega

theorem collapse_noRun4 (a : List UInt8) (h : collapse a = a) : NoRun4 a :=
  collapseAux_noRun4 a none 0 h

end Ffuzzy.Collapse
