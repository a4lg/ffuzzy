/-
  Finalisation: under the simulation relation the engine's `finalize_raw_internal` returns the digest
  of the reference engine.
-/
import FfuzzyProofs.GenSim.Step
namespace Ffuzzy.GenSim
open Ffuzzy.Spec

/-- inside the active range both guesses walk the same piece counts -/
theorem guessLoop_eq (g : Gen) (n : Naive) (h : Sim g n) :
    ∀ k, g.bhStart ≤ k → k < g.bhEnd → Gen.guessLoop g k = naiveGuess n k ∧ g.bhStart ≤ Gen.guessLoop g k := by
  intro k
  induction k with
  | zero => intro h1 _; simp [Gen.guessLoop, naiveGuess]; omega
  | succ k ih =>
    intro h1 h2
    rw [Gen.guessLoop, naiveGuess]
    by_cases hs : k + 1 > g.bhStart
    · rw [(h.live (k + 1) h1 h2).idx]
      by_cases hlt : (n.at (k + 1)).idx < 32
      · rw [if_pos (by simp [hs, hlt]), if_pos hlt]
        exact ih (by omega) (by omega)
      · rw [if_neg (by simp [hlt]), if_neg hlt]
        exact ⟨rfl, h1⟩
    · -- `k + 1` is the first active level: the one below was eliminated with 32 pieces here
      have := (h.elim k (by omega)).2
      rw [if_neg (by simp [hs]), if_neg (by omega)]
      exact ⟨rfl, h1⟩

/-- the guess skips the levels above the engine's active range, which are empty in the reference engine
    (`lim` is the fork limit) -/
theorem naiveGuess_skip' (n : Naive) (en lim : Nat) (hv : ∀ k, en ≤ k → k ≤ lim → (n.at k).idx = 0) :
    ∀ K, K ≤ lim → naiveGuess n K = naiveGuess n (min K (en - 1)) := by
  intro K
  induction K with
  | zero => intro _; simp
  | succ K ih =>
    intro hK
    by_cases hle : K + 1 ≤ en - 1
    · rw [Nat.min_eq_left hle]
    · have e : min (K + 1) (en - 1) = min K (en - 1) := by omega
      rw [e, ← ih (by omega)]
      rw [naiveGuess]
      have := hv (K + 1) (by omega) hK
      rw [if_pos (by omega)]

theorem naiveGuess_skip (n : Naive) (en : Nat) (hv : ∀ k, en ≤ k → k ≤ 30 → (n.at k).idx = 0) :
    ∀ K, K ≤ 30 → en ≥ 1 → naiveGuess n K = naiveGuess n (min K (en - 1)) :=
  fun K hK _ => naiveGuess_skip' n en 30 hv K hK

theorem guess_sim (g : Gen) (n : Naive) (h : Sim g n) (hsz : g.inputSize = n.size) (hM : effM g = n.size)
    (hK : min 30 (Gen.logBlockSizeFromInputSize n.size 0) ≤ g.bhEndLimit) :
    g.guessOutputLogBlockSize = naiveGuess n (min 30 (Gen.logBlockSizeFromInputSize n.size 0)) ∧
    g.bhStart ≤ g.guessOutputLogBlockSize ∧ g.guessOutputLogBlockSize < g.bhEnd := by
  have hst := h.st_lt
  obtain ⟨hs1, hs2⟩ := start_le_log g.bhStart n.size fun k hk => hM ▸ (h.elim k hk).1
  have hk : g.guessOutputLogBlockSize =
      Gen.guessLoop g (min (Gen.logBlockSizeFromInputSize n.size 0) (g.bhEnd - 1)) := by
    unfold Gen.guessOutputLogBlockSize; rw [hsz, hs1]
  rw [hk, naiveGuess_skip' n g.bhEnd g.bhEndLimit h.virgin _ hK]
  generalize Gen.logBlockSizeFromInputSize n.size 0 = L at hs2
  have hen := h.en_le
  -- `m` is where both searches start; `omega` is kept away from the nested minima
  have e : min (min 30 L) (g.bhEnd - 1) = min L (g.bhEnd - 1) := by
    rw [Nat.min_comm 30, Nat.min_assoc, Nat.min_eq_right (by omega : g.bhEnd - 1 ≤ 30)]
  have hm1 : min L (g.bhEnd - 1) ≤ g.bhEnd - 1 := Nat.min_le_right _ _
  have hm2 : g.bhStart ≤ min L (g.bhEnd - 1) := Nat.le_min.mpr ⟨hs2, by omega⟩
  rw [e]
  generalize min L (g.bhEnd - 1) = m at hm1 hm2
  obtain ⟨h1, h2⟩ := guessLoop_eq g n h m hm2 (by omega)
  have := naiveGuess_le n m
  rw [h1]
  exact ⟨rfl, h1 ▸ h2, by omega⟩

/-- finalisation of an engine state that simulates the reference engine: no declared size, or a
    declared size equal to the processed size; the fork limit is 30 or above the block size index
    the size asks for (what `set_fixed_input_size` computes) -/
theorem final_sim (g : Gen) (n : Naive) (bs : List UInt8) (h : Sim g n) (hN : NInv n bs)
    (hf : g.fixedSize = none ∨ g.fixedSize = some g.inputSize)
    (hl : g.bhEndLimit = 30 ∨ Gen.logBlockSizeFromInputSize n.size 0 < g.bhEndLimit)
    (hsz : g.inputSize = min n.size U64_MAX)
    (trunc : Bool) (s2 : Nat) (hs2 : s2 = 32 ∨ s2 = 64) :
    g.finalizeRaw trunc s2 = n.digest trunc s2 := by
  unfold Gen.finalizeRaw Naive.digest
  rw [if_neg ((Gen.hint_ok_iff _ _).mpr hf)]
  by_cases hbig : Gen.MAX_INPUT_SIZE < n.size
  · rw [if_pos hbig, if_pos (by rw [hsz]; unfold Gen.MAX_INPUT_SIZE U64_MAX at *; omega)]
  · have hsz' : g.inputSize = n.size := by
      rw [hsz]; unfold Gen.MAX_INPUT_SIZE U64_MAX at *; omega
    rw [if_neg hbig, if_neg (by rw [hsz']; exact hbig)]
    simp only
    have hE : effM g = n.size := by
      unfold effM eff
      rcases hf with e | e <;> rw [e] <;> simp [hsz']
    -- the fork limit does not cut below the index `K` the size asks for, and meets it only at 30
    have hK : min 30 (Gen.logBlockSizeFromInputSize n.size 0) ≤ g.bhEndLimit ∧
        (g.bhEndLimit ≤ min 30 (Gen.logBlockSizeFromInputSize n.size 0) → g.bhEndLimit = 30) := by
      have := h.lim; omega
    obtain ⟨hk, hk_ge, hk_lt⟩ := guess_sim g n h hsz' hE hK.1
    have hpos := naiveGuess_idx_ge n (min 30 (Gen.logBlockSizeFromInputSize n.size 0))
    have hkK := naiveGuess_le n (min 30 (Gen.logBlockSizeFromInputSize n.size 0))
    rw [← hk] at hpos hkK ⊢
    generalize min 30 (Gen.logBlockSizeFromInputSize n.size 0) = K at hK hkK
    generalize g.guessOutputLogBlockSize = k at hk_ge hk_lt hpos hkK
    -- `omega` is called with what is left: with `hf`, `hl` and the size bounds in context its case splits
    -- make the call several times slower to check
    clear hf hl hsz hbig hsz' hE hk
    have hen := h.en_le
    have hlv := h.live k hk_ge hk_lt
    rw [h.roll, digest1_congr hlv (hN.wf k (by omega))]
    by_cases hlt : k < g.bhEnd - 1
    · rw [if_pos hlt, digest2_congr (h.live (k + 1) (by omega) (by omega)) (hN.wf (k + 1) (by omega)) _ trunc s2 hs2]
      cases (n.at (k + 1)).digest2 (n.roll.value != 0) trunc s2 <;> rfl
    · rw [if_neg hlt]
      have hke : g.bhEnd - 1 = k := by omega
      have hnil : (n.at (k + 1)).idx = 0 → (n.at (k + 1)).digest2 (n.roll.value != 0) trunc s2 =
          .ok (if (n.roll.value != 0) = true then [fnvUpdate fnvInit bs] else []) := fun hidx0 => by
        obtain ⟨v1, v2, v3, v4⟩ := hN.virgin (k + 1) (by omega) hidx0
        rw [digest2_virgin _ (hN.wf (k + 1) (by omega)) hidx0 v4 v3 (by rw [v1, v2]) _ trunc s2 hs2, v1]
      clear hs2
      by_cases hcase : g.bhEnd ≤ g.bhEndLimit
      · -- the top context is below the fork limit and empty, so the guess went down to 0
        have htop := h.top hcase
        rw [hke] at htop
        have hk0 : k = 0 := Decidable.byContradiction fun hk0 => by have := hpos hk0; omega
        rw [hnil (h.virgin (k + 1) (by omega) (by omega)), if_pos hk0, hlv.hFull, (hN.virgin k (by omega) htop).1]
        cases (n.roll.value != 0) <;> rfl
      · -- the very top: context 30 holds 32 pieces or more, the last-piece hash stands in for level 31
        have e30l : g.bhEndLimit = 30 := hK.2 (by omega)
        have e30 : k = 30 := by omega
        have hL := h.last e30l
        have h32 := hpos (by omega)
        rw [e30] at h32
        rw [hnil (by rw [e30]; exact hN.top), if_neg (show ¬ k = 0 by omega), hL.2 (hL.1.mpr (by omega)), fnvAll_31 n bs hN]
        cases (n.roll.value != 0) <;> rfl

end Ffuzzy.GenSim
