/-
  Facts about one block hash context: well-formedness (`WF`), the relation `Live` of two contexts that
  finalisation cannot tell apart, its preservation by hash updates, piece stores and re-initialisation,
  and the digest extraction functions in terms of `Spec.withTail`.
-/
import FfuzzyModel.Generator
import FfuzzyModel.Spec.Ctph
import FfuzzyProofs.ListLemmas
namespace Ffuzzy.GenSim

/-- what holds of a context in either engine.  `cell63`: the 64th cell is filled only when the index is 63
    (the index stops there, and later pieces overwrite that cell); `half`: the half character is set only
    from 32 pieces on -/
structure WF (c : Ctx) : Prop where
  size : c.bh.size = 64
  idx : c.idx ≤ 63
  cell63 : c.bh.getD 63 NIL ≠ NIL → c.idx = 63
  half : c.chHalf ≠ NIL → 32 ≤ c.idx

/-- two contexts agree on everything finalisation (and the engine loop) can observe:
    cells below the piece index, the 64th cell, the half character and both running hashes -/
structure Live (a b : Ctx) : Prop where
  idx : a.idx = b.idx
  chHalf : a.chHalf = b.chHalf
  hFull : a.hFull = b.hFull
  hHalf : a.hHalf = b.hHalf
  sa : a.bh.size = 64
  sb : b.bh.size = 64
  c63 : a.bh.getD 63 NIL = b.bh.getD 63 NIL
  cells : ∀ j, j < a.idx → a.bh.getD j NIL = b.bh.getD j NIL

theorem Live.refl (a : Ctx) (h : a.bh.size = 64) : Live a a := ⟨rfl, rfl, rfl, rfl, h, h, rfl, fun _ _ => rfl⟩

theorem Live.symm {a b : Ctx} (h : Live a b) : Live b a :=
  ⟨h.idx.symm, h.chHalf.symm, h.hFull.symm, h.hHalf.symm, h.sb, h.sa, h.c63.symm,
   fun j hj => (h.cells j (by rw [h.idx]; exact hj)).symm⟩

theorem Live.trans {a b c : Ctx} (h1 : Live a b) (h2 : Live b c) : Live a c :=
  ⟨h1.idx.trans h2.idx, h1.chHalf.trans h2.chHalf, h1.hFull.trans h2.hFull, h1.hHalf.trans h2.hHalf,
   h1.sa, h2.sb, h1.c63.trans h2.c63,
   fun j hj => (h1.cells j hj).trans (h2.cells j (by rw [← h1.idx]; exact hj))⟩

theorem WF_new : WF Ctx.new := by
  refine ⟨?_, ?_, ?_, ?_⟩
  · show (Array.replicate 64 NIL).size = 64
    exact Array.size_replicate
  · show (0 : Nat) ≤ 63
    omega
  · intro h; exact absurd (getD_replicate_self 64 63 NIL) h
  · intro h; exact absurd rfl h

/-- the hash update of one byte: both piece hashes consume it (rs: `h_full.update_by_byte(ch)`,
    `h_half.update_by_byte(ch)` in the per-byte loop over the active contexts; the first line of `Spec.levelStep`) -/
def upd (ch : UInt8) (c : Ctx) : Ctx := { c with hFull := fnvStep c.hFull ch, hHalf := fnvStep c.hHalf ch }

/-! Projection lemmas are proved by `unfold; rfl`: asking the kernel to see through `upd` by `rfl`
    makes it compare `fnvStep …` with a field by unfolding `UInt` arithmetic (deep recursion). -/

@[simp] theorem upd_idx (ch : UInt8) (c : Ctx) : (upd ch c).idx = c.idx := by unfold upd; rfl

@[simp] theorem upd_bh (ch : UInt8) (c : Ctx) : (upd ch c).bh = c.bh := by unfold upd; rfl

@[simp] theorem upd_chHalf (ch : UInt8) (c : Ctx) : (upd ch c).chHalf = c.chHalf := by unfold upd; rfl

@[simp] theorem upd_hFull (ch : UInt8) (c : Ctx) : (upd ch c).hFull = fnvStep c.hFull ch := by unfold upd; rfl

@[simp] theorem upd_hHalf (ch : UInt8) (c : Ctx) : (upd ch c).hHalf = fnvStep c.hHalf ch := by unfold upd; rfl

theorem WF_upd {c : Ctx} (ch : UInt8) (h : WF c) : WF (upd ch c) :=
  ⟨by rw [upd_bh]; exact h.size, by rw [upd_idx]; exact h.idx,
   by rw [upd_bh, upd_idx]; exact h.cell63, by rw [upd_chHalf, upd_idx]; exact h.half⟩

theorem Live_upd {a b : Ctx} (ch : UInt8) (h : Live a b) : Live (upd ch a) (upd ch b) :=
  ⟨by simp [h.idx], by simp [h.chHalf], by simp [h.hFull], by simp [h.hHalf],
   by simp [h.sa], by simp [h.sb], by rw [upd_bh, upd_bh]; exact h.c63,
   by intro j hj; rw [upd_idx] at hj; rw [upd_bh, upd_bh]; exact h.cells j hj⟩

/-- the one place where `Ctx.storePiece` is unfolded: its nested tests as one test per field -/
theorem storePiece_eq (c : Ctx) : c.storePiece =
    { idx := if c.idx < 63 then c.idx + 1 else c.idx
      bh := c.bh.setIfInBounds c.idx c.hFull
      chHalf := if c.idx + 1 < 32 then NIL else c.hHalf
      hFull := if c.idx < 63 then fnvInit else c.hFull
      hHalf := if c.idx + 1 < 32 then fnvInit else c.hHalf } := by
  unfold Ctx.storePiece
  by_cases h63 : c.idx < 63
  · by_cases h32 : c.idx + 1 < 32
    · simp only [h63, h32, if_true]
    · simp only [h63, h32, if_true, if_false]
  · have h32 : ¬ c.idx + 1 < 32 := by omega
    simp only [h63, h32, if_false]

theorem storePiece_idx (c : Ctx) : c.storePiece.idx = if c.idx < 63 then c.idx + 1 else c.idx :=
  congrArg Ctx.idx (storePiece_eq c)

theorem storePiece_bh (c : Ctx) : c.storePiece.bh = c.bh.setIfInBounds c.idx c.hFull :=
  congrArg Ctx.bh (storePiece_eq c)

theorem storePiece_hFull (c : Ctx) : c.storePiece.hFull = if c.idx < 63 then fnvInit else c.hFull :=
  congrArg Ctx.hFull (storePiece_eq c)

theorem storePiece_hHalf (c : Ctx) : c.storePiece.hHalf = if c.idx + 1 < 32 then fnvInit else c.hHalf :=
  congrArg Ctx.hHalf (storePiece_eq c)

theorem storePiece_chHalf (c : Ctx) : c.storePiece.chHalf = if c.idx + 1 < 32 then NIL else c.hHalf :=
  congrArg Ctx.chHalf (storePiece_eq c)

theorem WF_store {c : Ctx} (h : WF c) : WF c.storePiece := by
  have hi := h.idx
  have hs := h.size
  refine ⟨by rw [storePiece_bh, Array.size_setIfInBounds]; exact hs, by rw [storePiece_idx]; split <;> omega,
    fun hne => ?_, fun hne => ?_⟩
  · rw [storePiece_bh, getD_setIfInBounds _ _ _ _ _ (by omega)] at hne
    rw [storePiece_idx]
    split at hne
    · next e => rw [← e, if_neg (by omega)]
    · have := h.cell63 hne
      split <;> omega
  · rw [storePiece_chHalf c] at hne
    rw [storePiece_idx]
    split at hne
    · exact absurd rfl hne
    · split <;> omega

theorem Live_store {a b : Ctx} (h : Live a b) (ha : a.idx ≤ 63) : Live a.storePiece b.storePiece := by
  have hcell : ∀ j, j ≤ a.idx ∨ j = 63 →
      (a.bh.setIfInBounds a.idx a.hFull).getD j NIL = (b.bh.setIfInBounds a.idx a.hFull).getD j NIL := fun j hj => by
    rw [getD_setIfInBounds _ _ _ _ _ (by rw [h.sa]; omega), getD_setIfInBounds _ _ _ _ _ (by rw [h.sb]; omega)]
    split
    · rfl
    · next e =>
      rcases hj with hj | hj
      · exact h.cells j (by omega)
      · rw [hj]; exact h.c63
  refine ⟨by rw [storePiece_idx, storePiece_idx, h.idx],
    by rw [storePiece_chHalf a, storePiece_chHalf b, h.idx, h.hHalf],
    by rw [storePiece_hFull, storePiece_hFull, h.idx, h.hFull],
    by rw [storePiece_hHalf a, storePiece_hHalf b, h.idx, h.hHalf],
    by rw [storePiece_bh, Array.size_setIfInBounds]; exact h.sa,
    by rw [storePiece_bh, Array.size_setIfInBounds]; exact h.sb, ?_, fun j hj => ?_⟩
  · rw [storePiece_bh, storePiece_bh, ← h.idx, ← h.hFull]; exact hcell 63 (Or.inr rfl)
  · rw [storePiece_idx] at hj
    rw [storePiece_bh, storePiece_bh, ← h.idx, ← h.hFull]
    exact hcell j (Or.inl (by split at hj <;> omega))

/-- a context re-initialised for reuse (`Ctx.reset` keeps the stale cells below 63), with the hashes of
    a context `b` that holds no piece yet, is live-equal to `b`: what a fork and a generator reset produce -/
theorem Live_reset (c b : Ctx) (hs : c.bh.size = 64) (hb : b.bh.size = 64) (h0 : b.idx = 0) (hc : b.chHalf = NIL)
    (h63 : b.bh.getD 63 NIL = NIL) : Live { c.reset with hFull := b.hFull, hHalf := b.hHalf } b := by
  refine ⟨h0.symm, hc.symm, rfl, rfl, ?_, hb, ?_, fun j hj => absurd hj (Nat.not_lt_zero j)⟩
  · show (c.bh.setIfInBounds 63 NIL).size = 64
    rw [Array.size_setIfInBounds]; exact hs
  · show (c.bh.setIfInBounds 63 NIL).getD 63 NIL = _
    rw [getD_setIfInBounds_same _ _ _ _ (by omega), h63]

open Ffuzzy.Spec

theorem take_toList (a : Array UInt8) (n : Nat) (hn : n ≤ a.size) :
    a.toList.take n = (List.range n).map (fun j => a.getD j NIL) := by
  apply List.ext_getElem?
  intro j
  by_cases hj : j < n
  · rw [List.getElem?_take, if_pos hj, Array.getElem?_toList, List.getElem?_map, List.getElem?_range hj,
      Option.map_some, Array.getD_eq_getD_getElem?, Array.getElem?_eq_getElem (by omega)]
    rfl
  · rw [List.getElem?_eq_none (by simp; omega), List.getElem?_eq_none (by simp; omega)]

theorem toList_take_eq {a b : Array UInt8} (n : Nat) (ha : a.size = 64) (hb : b.size = 64) (hn : n ≤ 64)
    (h : ∀ j, j < n → a.getD j NIL = b.getD j NIL) : a.toList.take n = b.toList.take n := by
  rw [take_toList a n (by omega), take_toList b n (by omega)]
  exact List.map_congr_left fun j hj => h j (List.mem_range.mp hj)

theorem forall_mem_take {a : Array UInt8} {n : Nat} (hn : n ≤ a.size) {P : UInt8 → Prop}
    (h : ∀ j, j < n → P (a.getD j NIL)) : ∀ x ∈ a.toList.take n, P x := by
  rw [take_toList a n hn]
  intro x hx
  obtain ⟨j, hj, rfl⟩ := List.mem_map.mp hx
  exact h j (List.mem_range.mp hj)

/-- how many characters a level has stored; the 64th counts when its cell is filled -/
def count (c : Ctx) : Nat := if c.bh.getD 63 NIL != NIL then c.idx + 1 else c.idx

def stored (c : Ctx) : List UInt8 := c.bh.toList.take (count c)

/-- how many stored characters the truncated block hash 2 keeps in front of its last one -/
def halfCount (c : Ctx) : Nat := if c.chHalf != NIL then 31 else c.idx

def halfBody (c : Ctx) : List UInt8 := c.bh.toList.take (halfCount c)

theorem WF.count_le {c : Ctx} (hw : WF c) : count c ≤ 64 := by
  have := hw.idx
  unfold count
  split <;> omega

theorem WF.lt_count {c : Ctx} (hw : WF c) {j : Nat} (hj : j < count c) :
    j < c.idx ∨ (j = 63 ∧ c.bh.getD 63 NIL ≠ NIL) := by
  unfold count at hj
  split at hj
  · next hc =>
    have := hw.cell63 (bne_iff_ne.mp hc)
    exact if e : j = 63 then Or.inr ⟨e, bne_iff_ne.mp hc⟩ else Or.inl (by omega)
  · exact Or.inl hj

theorem WF.halfCount_le {c : Ctx} (hw : WF c) : halfCount c ≤ c.idx := by
  unfold halfCount
  split
  · next hc => have := hw.half (bne_iff_ne.mp hc); omega
  · exact Nat.le_refl _

theorem stored_length {c : Ctx} (hw : WF c) : (stored c).length = count c := by
  rw [stored, List.length_take, Array.length_toList, hw.size, Nat.min_eq_left hw.count_le]

theorem mem_withTail {d : List UInt8} {t x : UInt8} {cap : Nat} {nz : Bool} (hx : x ∈ withTail d t cap nz) :
    x ∈ d ∨ x = t := by
  unfold withTail at hx
  split at hx
  · split at hx
    · exact List.mem_or_eq_of_mem_set hx
    · exact (List.mem_append.mp hx).imp_right List.mem_singleton.mp
  · exact Or.inl hx

theorem withTail_length_le {d : List UInt8} {t : UInt8} {cap : Nat} {nz : Bool} (h : d.length ≤ cap) :
    (withTail d t cap nz).length ≤ cap := by
  unfold withTail
  split
  · split
    · rw [List.length_set]; exact h
    · rw [List.length_append, List.length_singleton]; omega
  · exact h

theorem withTail_snoc (B : List UInt8) (x t : UInt8) (cap : Nat) (hB : B.length + 1 = cap) :
    withTail (B ++ [x]) t cap true = B ++ [t] := by
  rw [withTail, if_pos rfl, if_pos (by rw [List.length_append]; exact hB), ← hB, Nat.add_sub_cancel,
    List.set_append_right _ _ (Nat.le_refl _), Nat.sub_self]
  rfl

theorem withTail_short (B : List UInt8) (t : UInt8) (cap : Nat) (hB : B.length < cap) :
    withTail B t cap true = B ++ [t] := by
  rw [withTail, if_pos rfl, if_neg (Nat.ne_of_lt hB)]

theorem digest1_withTail (c : Ctx) (hw : WF c) (nz : Bool) : c.digest1 nz = withTail (stored c) c.hFull 64 nz := by
  unfold Ctx.digest1 withTail
  rw [stored_length hw]
  rfl

theorem digest2_trunc (c : Ctx) (nz : Bool) (s2 : Nat) :
    c.digest2 nz true s2 =
      .ok (halfBody c ++ if nz then [c.hHalf] else if c.chHalf != NIL then [c.chHalf] else []) := by
  unfold Ctx.digest2 halfBody halfCount
  simp only [if_true]
  by_cases hc : (c.chHalf != NIL) = true
  · simp only [hc, if_true]
    cases nz <;> rfl
  · simp only [hc, Bool.false_eq_true, if_false]
    cases nz
    · exact congrArg _ (List.append_nil _).symm
    · rfl

/-- the non-truncated block hash 2: the long form, refused by the short output type when it does not fit -/
theorem digest2_full (c : Ctx) (hw : WF c) (nz : Bool) (s2 : Nat) (hs2 : s2 = 32 ∨ s2 = 64) :
    c.digest2 nz false s2 =
      if s2 = 32 ∧ 32 < (withTail (stored c) c.hFull 64 nz).length then .error .outputOverflow
      else .ok (withTail (stored c) c.hFull 64 nz) := by
  have hd : c.bh.toList.take (if c.bh.getD 63 NIL != NIL then c.idx + 1 else c.idx) = stored c := rfl
  have hc : (if c.bh.getD 63 NIL != NIL then c.idx + 1 else c.idx) = (stored c).length := (stored_length hw).symm
  unfold Ctx.digest2 withTail
  simp only [Bool.false_eq_true, if_false, hd]
  rw [hc]
  generalize stored c = d
  rcases hs2 with rfl | rfl
  · cases nz
    · simp
    · simp only [List.length_set, List.length_append, List.length_cons, List.length_nil, apply_ite List.length]
      by_cases h64 : d.length = 64
      · simp [h64]
      · by_cases h : 32 ≤ d.length
        · simp [h64, h]; omega
        · have h1 : ¬ 32 < d.length + 1 := by omega
          simp [h64, h, h1]
          omega
  · cases nz
    · simp
    · simp only [beq_self_eq_true, Bool.not_true, Bool.false_and, Bool.false_eq_true, if_false, if_true]
      have : ¬ ((64 : Nat) = 32 ∧ 32 < (if d.length = 64 then d.set (64 - 1) c.hFull else d ++ [c.hFull]).length) :=
        fun h => absurd h.1 (by decide)
      rw [if_neg this]
      split <;> rfl

theorem digest2_long_ok (c : Ctx) (nz : Bool) : ∃ d, c.digest2 nz false 64 = .ok d := by
  unfold Ctx.digest2
  simp only [Bool.false_eq_true, if_false, beq_self_eq_true, Bool.not_true, Bool.false_and]
  cases nz
  · exact ⟨_, rfl⟩
  · rw [if_pos rfl]
    exact ⟨_, (apply_ite Except.ok _ _ _).symm⟩

theorem Live.wf {a b : Ctx} (h : Live a b) (wb : WF b) : WF a :=
  ⟨h.sa, by rw [h.idx]; exact wb.idx, fun hne => by rw [h.idx]; exact wb.cell63 (by rw [← h.c63]; exact hne),
   fun hne => by rw [h.idx]; exact wb.half (by rw [← h.chHalf]; exact hne)⟩

theorem Live.stored_eq {a b : Ctx} (h : Live a b) (wa : WF a) : stored a = stored b := by
  have e : count b = count a := by unfold count; rw [h.c63, h.idx]
  rw [stored, stored, e]
  exact toList_take_eq _ h.sa h.sb wa.count_le fun j hj => (wa.lt_count hj).elim (h.cells j) fun e => e.1 ▸ h.c63

theorem Live.halfBody_eq {a b : Ctx} (h : Live a b) (wa : WF a) : halfBody a = halfBody b := by
  have e : halfCount b = halfCount a := by unfold halfCount; rw [h.chHalf, h.idx]
  rw [halfBody, halfBody, e]
  exact toList_take_eq _ h.sa h.sb (Nat.le_trans wa.halfCount_le (Nat.le_succ_of_le wa.idx)) fun j hj =>
    h.cells j (Nat.lt_of_lt_of_le hj wa.halfCount_le)

theorem digest1_congr {a b : Ctx} (h : Live a b) (wb : WF b) (nz : Bool) : a.digest1 nz = b.digest1 nz := by
  rw [digest1_withTail a (h.wf wb), digest1_withTail b wb, h.stored_eq (h.wf wb), h.hFull]

theorem digest2_congr {a b : Ctx} (h : Live a b) (wb : WF b) (nz tr : Bool) (s2 : Nat) (hs2 : s2 = 32 ∨ s2 = 64) :
    a.digest2 nz tr s2 = b.digest2 nz tr s2 := by
  cases tr
  · rw [digest2_full a (h.wf wb) nz s2 hs2, digest2_full b wb nz s2 hs2, h.stored_eq (h.wf wb), h.hFull]
  · rw [digest2_trunc, digest2_trunc, h.halfBody_eq (h.wf wb), h.hHalf, h.chHalf]

theorem digest2_virgin (c : Ctx) (hw : WF c) (hidx : c.idx = 0) (h63 : c.bh.getD 63 NIL = NIL) (hch : c.chHalf = NIL)
    (heq : c.hHalf = c.hFull) (nz tr : Bool) (s2 : Nat) (hs2 : s2 = 32 ∨ s2 = 64) :
    c.digest2 nz tr s2 = .ok (if nz then [c.hFull] else []) := by
  have hnil : (NIL != NIL) = false := by decide
  cases tr
  · have hs : stored c = [] := by unfold stored count; rw [h63, hidx, hnil]; rfl
    rw [digest2_full c hw nz s2 hs2, hs]
    cases nz <;> simp [withTail]
  · have hb : halfBody c = [] := by unfold halfBody halfCount; rw [hch, hidx, hnil]; rfl
    rw [digest2_trunc, hb, hch, heq]
    cases nz <;> rfl

end Ffuzzy.GenSim
