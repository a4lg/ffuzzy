/-
  One byte of the engine (the body of `generator_update_template!`) preserves the simulation relation
  with the reference engine.
-/
import FfuzzyProofs.GenSim.Loop
namespace Ffuzzy.GenSim
open Ffuzzy.Spec

/-- the per-byte hash updates before the trigger tests -/
abbrev hashG (g : Gen) (ch : UInt8) : Gen :=
  { g with roll := g.roll.updateByByte ch,
           hLast := if g.isLast then fnvStep g.hLast ch else g.hLast,
           ctx := Gen.updCtxs ch g.bhStart (g.bhEnd - g.bhStart) g.ctx }

theorem hashG_ctx (g : Gen) (ch : UInt8) (h1 : g.bhStart ≤ g.bhEnd) (h2 : g.bhEnd ≤ g.ctx.size) :
    (hashG g ch).ctx.size = g.ctx.size ∧
    ∀ k, (hashG g ch).ctxAt k = if g.bhStart ≤ k ∧ k < g.bhEnd then upd ch (g.ctxAt k) else g.ctxAt k := by
  have e : g.bhStart + (g.bhEnd - g.bhStart) = g.bhEnd := by omega
  have := updCtxs_spec ch (g.bhEnd - g.bhStart) g.bhStart g.ctx (by omega)
  rw [e] at this
  exact this

theorem stepByte_eq (g : Gen) (ch : UInt8) (hp : g.panicked = false) (h1 : g.bhStart ≤ g.bhEnd) (h2 : g.bhEnd ≤ 31)
    (hm : g.rollMask = 2 ^ g.bhStart - 1) :
    g.stepByte ch =
      if trig g.bhStart (g.roll.updateByByte ch).value = true then
        Gen.bhLoop2 (hashG g ch) g.bhStart ((((g.roll.updateByByte ch).value + 1).toNat / 3) >>> g.bhStart)
      else hashG g ch := by
  unfold Gen.stepByte
  rw [if_neg (by rw [hp]; exact Bool.false_ne_true)]
  rw [if_neg (by simp only [Bool.or_eq_true, decide_eq_true_eq]; omega)]
  have ht := trig_iff_tests (g.roll.updateByByte ch).value g.bhStart
  have hmz := mask_zero_iff (((g.roll.updateByByte ch).value + 1).toNat / 3) g.bhStart
  rw [← hm] at hmz
  by_cases t : trig g.bhStart (g.roll.updateByByte ch).value = true
  · rw [if_pos t]
    obtain ⟨a, b, c⟩ := ht.mp t
    rw [if_neg a, if_neg (by rw [hmz.mpr b]; exact Bool.false_ne_true),
      if_neg (by simp only [bne_iff_ne, ne_eq, Decidable.not_not]; exact c)]
  · -- one of the three tests sends the step home
    rw [if_neg t]
    by_cases a : (g.roll.updateByByte ch).value + 1 = 0
    · rw [if_pos a]
    rw [if_neg a]
    by_cases b : ((((g.roll.updateByByte ch).value + 1).toNat / 3) &&& g.rollMask != 0) = true
    · rw [if_pos b]
    rw [if_neg b]
    by_cases c : (((g.roll.updateByByte ch).value + 1).toNat % 3 != 0) = true
    · rw [if_pos c]
    · exact absurd (ht.mpr ⟨a, hmz.mp (by simpa using b), by simpa using c⟩) t

theorem step_sim (n : Naive) (bs : List UInt8) (ch : UInt8) (hN : NInv n bs) (g : Gen) (h : Sim g n) :
    Sim (g.stepByte ch) (n.step ch) ∧ eff (g.stepByte ch) = eff g := by
  refine ⟨?_, eff_stepByte g ch⟩
  have hN' := ninv_step n bs ch hN
  have hst := h.st_lt
  have hen := h.en_le
  have hlim := h.lim
  rw [stepByte_eq g ch h.np (by omega) h.en_le h.mask]
  have hv : (g.roll.updateByByte ch).value = vOf n ch := by unfold vOf; rw [h.roll]
  rw [hv]
  obtain ⟨hcs, cat⟩ := hashG_ctx g ch (by omega) (by rw [h.csize]; exact hen)
  rw [h.csize] at hcs
  have hbs : ∀ k, ((hashG g ch).ctxAt k).bh.size = 64 := by
    intro k; rw [cat k]; split
    · rw [upd_bh]; exact h.bsize k
    · exact h.bsize k
  have hroll : (hashG g ch).roll = (n.step ch).roll := by
    show g.roll.updateByByte ch = n.roll.updateByByte ch
    rw [h.roll]
  have hlive : ∀ k, g.bhStart ≤ k → k < g.bhEnd → Live ((hashG g ch).ctxAt k) (mid n ch k) := by
    intro k h1 h2
    rw [cat k, if_pos ⟨h1, h2⟩]
    exact Live_upd ch (h.live k h1 h2)
  have helim : ∀ k, k < g.bhStart → 192 * 2 ^ k < effM g ∧ 32 ≤ ((n.step ch).at (k + 1)).idx := by
    intro k hk
    have := h.elim k hk
    have := idx_time_mono n bs ch hN (k + 1) (by omega)
    exact ⟨by omega, by omega⟩
  have hlast' : g.bhEndLimit = 30 → (hashG g ch).isLast = true → (hashG g ch).hLast = fnvAll' bs ch := by
    intro h30 hh
    show (if g.isLast = true then fnvStep g.hLast ch else g.hLast) = _
    rw [if_pos hh, fnvAll'_eq, (h.last h30).2 hh, fnvAll_31 n bs hN]
  by_cases t : trig g.bhStart (vOf n ch) = true
  · rw [if_pos t]
    exact loop_spec n bs ch hN (hashG g ch) g.bhStart (eff g) (effM g)
      { h with csize := hcs, bsize := hbs, effE := rfl, effMM := rfl, EM := Nat.le_max_left _ _, roll := hroll
               st_le := Nat.le_refl _, i_lt := h.st_lt, trigi := t
               done := fun k h1 h2 => by change g.bhStart ≤ k at h1; omega
               pend := hlive, elim := helim
               last := fun h30 => ⟨(h.last h30).1, hlast' h30⟩
               casc := fun _ => Or.inl rfl }
  · rw [if_neg t]
    have notrig := fun k => at_step_above n bs ch hN g.bhStart k (Bool.eq_false_iff.mpr t)
    refine { h with roll := hroll, csize := hcs, bsize := hbs, live := fun k h1 h2 => ?_, virgin := fun k h1 h2 => ?_,
                    elim := helim, last := fun h30 => ⟨?_, fun hh => ?_⟩, top := fun hle => ?_,
                    trg := fun k h1 h2 => ?_ }
    · change g.bhStart ≤ k at h1
      change k < g.bhEnd at h2
      rw [notrig k h1 (by omega)]; exact hlive k h1 h2
    · rw [notrig k (by change g.bhEnd ≤ k at h1; omega) (by change k ≤ g.bhEndLimit at h2; omega), mid_idx]
      exact h.virgin k h1 h2
    · rw [notrig 30 (by omega) (by omega), mid_idx]; exact (h.last h30).1
    · rw [hlast' h30 hh, fnvAll_31 _ _ hN']; rfl
    · show ((n.step ch).at (g.bhEnd - 1)).idx = 0
      rw [notrig (g.bhEnd - 1) (by omega) (by omega), mid_idx]; exact h.top hle
    · change g.bhStart ≤ k at h1
      change k + 1 < g.bhEnd at h2
      have := h.trg k h1 h2
      have := idx_time_mono n bs ch hN k (by omega)
      omega

end Ffuzzy.GenSim
