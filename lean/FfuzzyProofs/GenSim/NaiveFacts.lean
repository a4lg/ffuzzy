/-
  The reference (naive 32-level) engine alone: its invariant `NInv`, what one byte does to a level
  (`at_step`), the block size index the input size asks for (`log_spec`) and the downward search
  `naiveGuess` from it.
-/
import FfuzzyProofs.GenSim.Basic
import FfuzzyProofs.Trig
namespace Ffuzzy.GenSim
open Ffuzzy.Spec

/-- the reference engine `n` after the bytes `bs`.  `virgin`: a level that has stored nothing is still in
    its first piece, so both its hashes are those of the whole input; `mono`: a level holds at most as many
    pieces as the one below (its triggers are among those of the level below, `trig_below`); `top`: level 31
    never ends a piece (`trig_31`) -/
structure NInv (n : Naive) (bs : List UInt8) : Prop where
  roll : n.roll = Roll.new.update bs
  lvSize : n.lv.size = 32
  size : n.size = bs.length
  wf : ∀ k, k < 32 → WF (n.at k)
  virgin : ∀ k, k < 32 → (n.at k).idx = 0 →
    (n.at k).hFull = fnvUpdate fnvInit bs ∧ (n.at k).hHalf = fnvUpdate fnvInit bs ∧
    (n.at k).chHalf = NIL ∧ (n.at k).bh.getD 63 NIL = NIL
  mono : ∀ k, k < 31 → (n.at (k + 1)).idx ≤ (n.at k).idx
  top : (n.at 31).idx = 0

theorem fnvAll_31 (n : Naive) (bs : List UInt8) (hN : NInv n bs) : (n.at 31).hFull = fnvUpdate fnvInit bs :=
  (hN.virgin 31 (by omega) hN.top).1

theorem at_new (k : Nat) : Naive.new.at k = Ctx.new := by
  unfold Naive.at Naive.new
  exact getD_replicate_self 32 k Ctx.new

theorem ninv_new : NInv Naive.new [] := by
  refine ⟨rfl, by simp [Naive.new], rfl, ?_, ?_, ?_, ?_⟩
  · intro k _; rw [at_new]; exact WF_new
  · intro k _ _; rw [at_new]
    exact ⟨rfl, rfl, rfl, getD_replicate_self 64 63 NIL⟩
  · intro k _; rw [at_new, at_new]; exact Nat.le_refl _
  · rw [at_new]; rfl

theorem levelStep_eq (k : Nat) (v : UInt32) (ch : UInt8) (c : Ctx) :
    levelStep k v ch c = if trig k v then (upd ch c).storePiece else upd ch c := rfl

section
variable (n : Naive) (bs : List UInt8) (ch : UInt8)

/-- rolling value after the byte -/
def vOf : UInt32 := (n.roll.updateByByte ch).value

/-- level `k` of the reference engine after the hash update, before a possible store -/
def mid (k : Nat) : Ctx := upd ch (n.at k)

/-- FNV of everything including the new byte -/
def fnvAll' : UInt8 := fnvUpdate fnvInit (bs ++ [ch])

theorem fnvAll'_eq : fnvAll' bs ch = fnvStep (fnvUpdate fnvInit bs) ch := by
  simp [fnvAll', fnvUpdate, List.foldl_append]

theorem mid_idx (k : Nat) : (mid n ch k).idx = (n.at k).idx := by unfold mid; rw [upd_idx]

theorem at_step (hN : NInv n bs) (k : Nat) (hk : k < 32) :
    (n.step ch).at k = if trig k (vOf n ch) = true then (mid n ch k).storePiece else mid n ch k := by
  unfold Naive.step vOf mid Naive.at
  rw [Array.getD_eq_getD_getElem?, Array.getD_eq_getD_getElem?, Array.getElem?_mapIdx,
    Array.getElem?_eq_getElem (by rw [hN.lvSize]; exact hk)]
  exact levelStep_eq _ _ _ _

theorem idx_time_mono (hN : NInv n bs) (k : Nat) (hk : k < 32) : (n.at k).idx ≤ ((n.step ch).at k).idx := by
  rw [at_step n bs ch hN k hk]
  split
  · rw [storePiece_idx, mid_idx]; split <;> omega
  · rw [mid_idx]; exact Nat.le_refl _

theorem stored_pos (hN : NInv n bs) (k : Nat) (hk : k < 32) (ht : trig k (vOf n ch) = true) :
    1 ≤ ((n.step ch).at k).idx := by
  rw [at_step n bs ch hN k hk, if_pos ht, storePiece_idx]
  split <;> omega

theorem at_step_above (hN : NInv n bs) (j k : Nat) (hj : trig j (vOf n ch) = false) (hjk : j ≤ k) (hk : k < 32) :
    (n.step ch).at k = mid n ch k := by
  rw [at_step n bs ch hN k hk, if_neg fun ht => Bool.eq_false_iff.mp hj (trig_below k j _ ht hjk)]

theorem ninv_step (h : NInv n bs) : NInv (n.step ch) (bs ++ [ch]) := by
  refine ⟨?_, ?_, ?_, ?_, ?_, ?_, ?_⟩
  · simp [Naive.step, h.roll, Roll.update, List.foldl_append]
  · simp [Naive.step, h.lvSize]
  · simp [Naive.step, h.size]
  · intro k hk
    rw [at_step n bs ch h k hk]
    split
    · exact WF_store (WF_upd ch (h.wf k hk))
    · exact WF_upd ch (h.wf k hk)
  · intro k hk hidx
    -- a level that still holds no piece did not end one on this byte
    have ht : trig k (vOf n ch) = false := Bool.eq_false_iff.mpr fun t => by
      have := stored_pos n bs ch h k hk t
      omega
    rw [at_step_above n bs ch h k k ht (Nat.le_refl k) hk] at hidx ⊢
    obtain ⟨v1, v2, v3, v4⟩ := h.virgin k hk (mid_idx n ch k ▸ hidx)
    unfold mid
    rw [upd_hFull, upd_hHalf, upd_chHalf, upd_bh, v1, v2, ← fnvAll'_eq]
    exact ⟨rfl, rfl, v3, v4⟩
  · intro k hk
    have hm := h.mono k hk
    by_cases t1 : trig (k + 1) (vOf n ch) = true
    · rw [at_step n bs ch h k (by omega), at_step n bs ch h (k + 1) (by omega), if_pos t1,
        if_pos (trig_below (k + 1) k _ t1 (Nat.le_succ k)), storePiece_idx, storePiece_idx, mid_idx, mid_idx]
      split <;> split <;> omega
    · have := idx_time_mono n bs ch h k (by omega)
      rw [at_step_above n bs ch h (k + 1) (k + 1) (Bool.eq_false_iff.mpr t1) (Nat.le_refl _) (by omega), mid_idx]
      omega
  · rw [at_step_above n bs ch h 31 31 (trig_31 _) (Nat.le_refl _) (by omega), mid_idx]
    exact h.top

end

theorem feed_append (a b : List UInt8) : Naive.feed (a ++ b) = b.foldl Naive.step (Naive.feed a) :=
  List.foldl_append

theorem feed_snoc (p : List UInt8) (c : UInt8) : Naive.feed (p ++ [c]) = (Naive.feed p).step c :=
  feed_append p [c]

theorem ninv_feed (bs : List UInt8) : NInv (Naive.feed bs) bs := by
  induction bs using List.snoc_induction with
  | hnil => exact ninv_new
  | hsnoc p c ih => rw [feed_snoc]; exact ninv_step _ p c ih

/-- `get_log_block_size_from_input_size(size, 0)` is the least `m` with `size ≤ 192·2^m` (192 = `Gen.SIZE_UNIT`) -/
theorem log_spec (size : Nat) :
    size ≤ 192 * 2 ^ (Gen.logBlockSizeFromInputSize size 0) ∧
    ∀ m, m < Gen.logBlockSizeFromInputSize size 0 → 192 * 2 ^ m < size := by
  unfold Gen.logBlockSizeFromInputSize Gen.SIZE_UNIT u64Ilog2
  by_cases h : size ≤ 192
  · rw [if_pos h]; simp; omega
  · rw [if_neg h]
    simp only [Nat.zero_max]
    have hq : (size - 1) / 192 ≠ 0 := by omega
    have hlo := (Nat.le_log2 hq).mp (Nat.le_refl _)
    have hhi : (size - 1) / 192 < 2 ^ (((size - 1) / 192).log2 + 1) := (Nat.log2_lt hq).mp (Nat.lt_succ_self _)
    refine ⟨?_, ?_⟩
    · omega
    · intro m hm
      have hp : 2 ^ m ≤ 2 ^ ((size - 1) / 192).log2 := Nat.pow_le_pow_right (by omega) (by omega)
      omega

/-- the `start` argument (`bhidx_start`, at the one call where it is not `0`) only bounds the result from below -/
theorem log_start (size st : Nat) :
    Gen.logBlockSizeFromInputSize size st = max st (Gen.logBlockSizeFromInputSize size 0) := by
  unfold Gen.logBlockSizeFromInputSize
  split
  · exact (Nat.max_zero st).symm
  · rw [Nat.zero_max]

/-- the eliminated levels are below the block size the input size asks for -/
theorem start_le_log (st size : Nat) (h : ∀ k, k < st → 192 * 2 ^ k < size) :
    Gen.logBlockSizeFromInputSize size st = Gen.logBlockSizeFromInputSize size 0 ∧
    st ≤ Gen.logBlockSizeFromInputSize size 0 := by
  have hle : st ≤ Gen.logBlockSizeFromInputSize size 0 := Nat.le_of_not_lt fun hlt =>
    Nat.lt_irrefl _ (Nat.lt_of_lt_of_le (h _ hlt) (log_spec size).1)
  exact ⟨by rw [log_start, Nat.max_eq_right hle], hle⟩

/-- `naiveGuess n K` is the greatest level `≤ K` that holds at least 32 pieces, and `0` when there is none -/
theorem naiveGuess_greatest (n : Naive) (K : Nat) :
    naiveGuess n K ≤ K ∧ (naiveGuess n K ≠ 0 → 32 ≤ (n.at (naiveGuess n K)).idx) ∧
    ∀ j, naiveGuess n K < j → j ≤ K → (n.at j).idx < 32 := by
  induction K with
  | zero => exact ⟨Nat.le_refl 0, fun h => absurd rfl h, fun j h1 h2 => absurd h1 (Nat.not_lt.mpr h2)⟩
  | succ K ih =>
    rw [naiveGuess]
    split
    · next hlt =>
      refine ⟨Nat.le_succ_of_le ih.1, ih.2.1, fun j h1 h2 => ?_⟩
      by_cases e : j = K + 1
      · rw [e]; exact hlt
      · exact ih.2.2 j h1 (by omega)
    · exact ⟨Nat.le_refl _, fun _ => by omega, fun j h1 h2 => by omega⟩

theorem naiveGuess_le (n : Naive) (K : Nat) : naiveGuess n K ≤ K := (naiveGuess_greatest n K).1

theorem naiveGuess_idx_ge (n : Naive) (K : Nat) (h : naiveGuess n K ≠ 0) : 32 ≤ (n.at (naiveGuess n K)).idx :=
  (naiveGuess_greatest n K).2.1 h

theorem naiveDigest_eq_ok {bs : List UInt8} {trunc : Bool} {s2 : Nat} {d : Digest} (h : naiveDigest bs trunc s2 = .ok d) :
    d.log = naiveGuess (Naive.feed bs) (min 30 (Gen.logBlockSizeFromInputSize bs.length 0)) ∧ d.log ≤ 30 ∧
    d.bh1 = ((Naive.feed bs).at d.log).digest1 ((Naive.feed bs).roll.value != 0) ∧
    ((Naive.feed bs).at (d.log + 1)).digest2 ((Naive.feed bs).roll.value != 0) trunc s2 = .ok d.bh2 := by
  unfold naiveDigest Naive.digest at h
  rw [(ninv_feed bs).size] at h
  split at h
  · cases h
  · simp only at h
    split at h
    · cases h
    · next b2 hb2 =>
      cases h
      exact ⟨rfl, Nat.le_trans (naiveGuess_le _ _) (Nat.min_le_left _ _), rfl, hb2⟩

end Ffuzzy.GenSim
