/-
  The digests of a context whose characters are base64 indices (`SymOK`; for the reference engine:
  `Decl.LInv.symok`) are valid block hashes: symbols below 64, lengths within the capacity (C11, `gen` operation).
-/
import FfuzzyProofs.GenSim.Basic
namespace Ffuzzy.GenSim
open Ffuzzy.Spec

/-- every character the context can contribute to a digest is a base64 index (below 64).  `ch`: the half
    character is unset or one; `half`: from 32 pieces on it is set (the converse of `WF.half`) -/
structure SymOK (c : Ctx) : Prop where
  cells : ∀ j, j < c.idx → c.bh.getD j NIL < 64
  c63 : c.bh.getD 63 NIL ≠ NIL → c.bh.getD 63 NIL < 64
  hF : c.hFull < 64
  hH : c.hHalf < 64
  ch : c.chHalf = NIL ∨ c.chHalf < 64
  half : 32 ≤ c.idx → c.chHalf ≠ NIL

theorem stored_sym {c : Ctx} (hw : WF c) (hs : SymOK c) : ∀ x ∈ stored c, x < 64 :=
  forall_mem_take (hw.size ▸ hw.count_le) fun j hj =>
    (hw.lt_count hj).elim (hs.cells j) fun e => e.1 ▸ hs.c63 e.2

theorem stored_length_le {c : Ctx} (hw : WF c) : (stored c).length ≤ 64 := stored_length hw ▸ hw.count_le

theorem halfBody_ok {c : Ctx} (hw : WF c) (hs : SymOK c) :
    (halfBody c).length ≤ 31 ∧ ∀ x ∈ halfBody c, x < 64 := by
  have hle := hw.halfCount_le
  have hi := hw.idx
  refine ⟨?_, forall_mem_take (by rw [hw.size]; omega) fun j hj => hs.cells j (by omega)⟩
  -- without a half character fewer than 32 pieces are stored
  have : halfCount c ≤ 31 := by
    unfold halfCount
    split
    · exact Nat.le_refl _
    · next hc => exact Nat.le_of_lt_succ (Nat.lt_of_not_le fun e => hs.half e (by simpa using hc))
  rw [halfBody, List.length_take]
  omega

theorem digest1_ok (c : Ctx) (hw : WF c) (hs : SymOK c) (nz : Bool) :
    (c.digest1 nz).length ≤ 64 ∧ ∀ x ∈ c.digest1 nz, x < 64 := by
  rw [digest1_withTail c hw]
  exact ⟨withTail_length_le (stored_length_le hw),
    fun x hx => (mem_withTail hx).elim (stored_sym hw hs x) fun e => e ▸ hs.hF⟩

theorem digest2_ok (c : Ctx) (hw : WF c) (hs : SymOK c) (nz trunc : Bool) (s2 : Nat) (hs2 : s2 = 32 ∨ s2 = 64)
    (d : List UInt8) (hd : c.digest2 nz trunc s2 = .ok d) : d.length ≤ s2 ∧ ∀ x ∈ d, x < 64 := by
  cases trunc
  · rw [digest2_full c hw nz s2 hs2] at hd
    split at hd
    · cases hd
    · next hfit =>
      cases hd
      refine ⟨?_, fun x hx => (mem_withTail hx).elim (stored_sym hw hs x) fun e => e ▸ hs.hF⟩
      rcases hs2 with e | e
      · rw [e] at hfit ⊢; exact Nat.le_of_not_lt fun h => hfit ⟨rfl, h⟩
      · rw [e]; exact withTail_length_le (stored_length_le hw)
  · rw [digest2_trunc] at hd
    cases hd
    obtain ⟨hl, hb⟩ := halfBody_ok hw hs
    have hlast : (if nz = true then [c.hHalf] else if c.chHalf != NIL then [c.chHalf] else []).length ≤ 1 ∧
        ∀ x ∈ (if nz = true then [c.hHalf] else if c.chHalf != NIL then [c.chHalf] else []), x < 64 := by
      split
      · exact ⟨Nat.le_refl _, fun x hx => List.mem_singleton.mp hx ▸ hs.hH⟩
      · split
        · next hc =>
          refine ⟨Nat.le_refl _, fun x hx => List.mem_singleton.mp hx ▸ ?_⟩
          exact hs.ch.resolve_left (by simpa using hc)
        · exact ⟨Nat.zero_le _, fun x hx => absurd hx (List.not_mem_nil)⟩
    refine ⟨?_, fun x hx => (List.mem_append.mp hx).elim (hb x) (hlast.2 x)⟩
    rw [List.length_append]
    rcases hs2 with e | e <;> omega

end Ffuzzy.GenSim
