/-
  The verification hook `Generator::verif_with_prefix_zeroes(N)` (model: `Gen.withPrefixZeroes`)
  returns exactly the state a new generator has after consuming `N` zero bytes.
-/
import FfuzzyProofs.GenSim.Step
import FfuzzyProofs.Fnv
namespace Ffuzzy.GenSim
open Ffuzzy.Spec

/-- rolling state over an all-zero window -/
def zroll (i : Nat) : Roll := { index := i, h1 := 0, h2 := 0, h3 := 0, window := List.replicate 7 0 }

theorem zroll_step : ∀ i : Fin 7, (zroll i.val).updateByByte 0 = zroll ((i.val + 1) % 7) := by decide

theorem zroll_succ (k : Nat) : (zroll (k % 7)).updateByByte 0 = zroll ((k + 1) % 7) :=
  (zroll_step ⟨k % 7, Nat.mod_lt _ (by decide)⟩).trans (congrArg zroll (Nat.add_mod k 1 7).symm)

theorem zroll_fold (N : Nat) : (List.replicate N (0 : UInt8)).foldl Roll.updateByByte Roll.new = zroll (N % 7) := by
  induction N with
  | zero => rfl
  | succ N ih =>
    rw [List.replicate_succ', List.foldl_append, ih]
    exact zroll_succ N

theorem zroll_value (i : Nat) : (zroll i).value = 0 := rfl

/-- FNV state after `k` zero bytes -/
def fnvp (k : Nat) : UInt8 := (List.replicate k (0 : UInt8)).foldl fnvStep fnvInit

theorem fnvp_succ (k : Nat) : fnvp (k + 1) = fnvStep (fnvp k) 0 := by
  unfold fnvp; rw [List.replicate_succ', List.foldl_append]; rfl

theorem fnv_period_fin : ∀ i : Fin 64, (List.replicate 16 (0 : UInt8)).foldl fnvStep i.val.toUInt8 = i.val.toUInt8 := by
  decide +kernel

theorem fnvp_lt (k : Nat) : fnvp k < 64 := Prim.fnvUpdate_lt _ fnvInit (by decide)

theorem fnvp_period (k : Nat) : fnvp (k + 16) = fnvp k := by
  have h1 : fnvp (k + 16) = (List.replicate 16 (0 : UInt8)).foldl fnvStep (fnvp k) := by
    unfold fnvp; rw [← List.replicate_append_replicate, List.foldl_append]
  have := fnv_period_fin ⟨(fnvp k).toNat, fnvp_lt k⟩
  simp only [Nat.toUInt8, UInt8.ofNat_toNat] at this
  rw [h1, this]

theorem fnvp_mod (N : Nat) : fnvp N = fnvp (N % 16) := by
  have h : ∀ q k, fnvp (k + 16 * q) = fnvp k := fun q k => by
    induction q with
    | zero => rfl
    | succ q ih => rw [Nat.mul_succ, ← Nat.add_assoc, fnvp_period, ih]
  rw [← h (N / 16) (N % 16), Nat.mod_add_div]

/-- engine state after `k` zero bytes of an input accounted as `sz` bytes -/
def gz (sz k : Nat) : Gen :=
  { Gen.new with inputSize := sz, roll := zroll (k % 7),
                 ctx := Gen.new.ctx.modify 0 fun c => { c with hFull := fnvp k, hHalf := fnvp k } }

theorem modify0_twice (a : Array Ctx) (f g : Ctx → Ctx) : (a.modify 0 f).modify 0 g = a.modify 0 (g ∘ f) := by
  apply Array.ext
  · simp
  · intro i h1 h2
    simp only [Array.getElem_modify]
    split <;> simp

theorem gz_zero (sz : Nat) : gz sz 0 = { Gen.new with inputSize := sz } := rfl

/-- a zero byte never ends a piece: the step only advances the rolling index and the first context's hashes -/
theorem gz_step (sz k : Nat) : (gz sz k).stepByte 0 = gz sz (k + 1) := by
  have hnt : ¬ trig (gz sz k).bhStart ((gz sz k).roll.updateByByte 0).value = true := by
    show ¬ trig 0 ((zroll (k % 7)).updateByByte 0).value = true
    rw [zroll_succ, zroll_value]; decide
  rw [stepByte_eq (gz sz k) 0 rfl (Nat.zero_le 1) (by show 1 ≤ 31; omega) rfl, if_neg hnt]
  have hupd : Gen.updCtxs 0 0 (1 - 0) (Gen.new.ctx.modify 0 fun c => { c with hFull := fnvp k, hHalf := fnvp k }) =
      Gen.new.ctx.modify 0 fun c => { c with hFull := fnvp (k + 1), hHalf := fnvp (k + 1) } := by
    show Gen.updCtxs 0 0 1 _ = _
    unfold Gen.updCtxs Gen.updCtxs
    rw [modify0_twice, fnvp_succ]
    rfl
  show ({ Gen.new with inputSize := sz, roll := (zroll (k % 7)).updateByByte 0, hLast := _,
                       ctx := Gen.updCtxs 0 0 (1 - 0)
                         (Gen.new.ctx.modify 0 fun c => { c with hFull := fnvp k, hHalf := fnvp k }) } : Gen) = _
  rw [hupd, zroll_succ]
  rfl

theorem gz_fold (sz m : Nat) : (List.replicate m (0 : UInt8)).foldl Gen.stepByte (gz sz 0) = gz sz m := by
  induction m with
  | zero => rfl
  | succ m ih =>
    rw [List.replicate_succ', List.foldl_append, ih, List.foldl_cons, List.foldl_nil, gz_step]

/-- **the hook.** for every `N` a `u64` can hold, the hook state is the state after really feeding
    `N` zero bytes to a new generator -/
theorem hook_eq_feed (N : Nat) (hN : N ≤ U64_MAX) : Gen.withPrefixZeroes N = Gen.new.update (List.replicate N 0) := by
  have hsz : Gen.satAdd Gen.new.inputSize (List.replicate N (0 : UInt8)).length = N := by
    unfold Gen.satAdd; simp [Gen.new]; exact Nat.min_eq_left hN
  unfold Gen.update
  rw [hsz, ← gz_zero N, gz_fold N N]
  unfold Gen.withPrefixZeroes gz
  simp only
  have hr : (List.replicate (N % 7) (0 : UInt8)).foldl Roll.updateByByte Gen.new.roll = zroll (N % 7) := by
    have := zroll_fold (N % 7)
    rw [Nat.mod_mod] at this
    exact this
  rw [hr]
  have : (List.replicate (N % 16) (0 : UInt8)).foldl fnvStep fnvInit = fnvp N := by
    rw [fnvp_mod N]; rfl
  rw [this]

end Ffuzzy.GenSim
