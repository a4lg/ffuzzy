/-
  The engine side: its hash update of the active range and its trigger tests in the terms of the
  reference engine; the simulation relation `Sim` between the two engines.
-/
import FfuzzyProofs.GenSim.NaiveFacts
import FfuzzyProofs.GenBasic
namespace Ffuzzy.GenSim
open Ffuzzy.Spec

theorem updCtxs_spec (ch : UInt8) : ∀ (n k : Nat) (ctx : Array Ctx), k + n ≤ ctx.size →
    (Gen.updCtxs ch k n ctx).size = ctx.size ∧
    ∀ j, (Gen.updCtxs ch k n ctx).getD j Ctx.new =
      if k ≤ j ∧ j < k + n then upd ch (ctx.getD j Ctx.new) else ctx.getD j Ctx.new := by
  intro n
  induction n with
  | zero => exact fun k ctx _ => ⟨rfl, fun j => (if_neg (by omega)).symm⟩
  | succ n ih =>
    intro k ctx hk
    obtain ⟨hsz, hget⟩ := ih (k + 1) (ctx.modify k (upd ch)) (by rw [Array.size_modify]; omega)
    refine ⟨hsz.trans Array.size_modify, fun j => ?_⟩
    show (Gen.updCtxs ch (k + 1) n (ctx.modify k (upd ch))).getD j Ctx.new = _
    rw [hget j, getD_modify _ _ _ _ _ (by omega)]
    by_cases e : j = k
    · rw [e, if_neg (by omega), if_pos rfl, if_pos (by omega)]
    · rw [if_neg e]
      by_cases hr : k + 1 ≤ j ∧ j < k + 1 + n
      · rw [if_pos hr, if_pos (by omega)]
      · rw [if_neg hr, if_neg (by omega)]

theorem mask_zero_iff (h st : Nat) : (h &&& (2 ^ st - 1) != 0) = false ↔ 2 ^ st ∣ h := by
  rw [Nat.and_two_pow_sub_one_eq_mod]
  simp only [bne_eq_false_iff_eq]
  exact ⟨Nat.dvd_of_mod_eq_zero, Nat.mod_eq_zero_of_dvd⟩

theorem mul_dvd_iff_dvd_and_dvd_div {a b c : Nat} : c * a ∣ b ↔ c ∣ b ∧ a ∣ b / c :=
  ⟨fun h => have hc := Nat.dvd_trans (Nat.dvd_mul_right c a) h; ⟨hc, (Nat.dvd_div_iff_mul_dvd hc).mpr h⟩,
   fun h => (Nat.dvd_div_iff_mul_dvd h.1).mp h.2⟩

/-- the engine's three tests (`h_org != 0`, mask, `h_org % 3 == 0`) together are the trigger test of level `st` -/
theorem trig_iff_tests (v : UInt32) (st : Nat) :
    trig st v = true ↔ (v + 1 ≠ 0 ∧ 2 ^ st ∣ (v + 1).toNat / 3 ∧ (v + 1).toNat % 3 = 0) := by
  unfold trig
  simp only [Bool.and_eq_true, bne_iff_ne, ne_eq, beq_iff_eq, ← Nat.dvd_iff_mod_eq_zero,
    mul_dvd_iff_dvd_and_dvd_div]
  exact and_congr_right fun _ => And.comm

/-- walking the bits of `h >> st`: the next level triggers iff the current low bit is clear -/
theorem trig_succ_iff (v : UInt32) (i : Nat) (h : trig i v = true) :
    trig (i + 1) v = true ↔ (((v + 1).toNat / 3) >>> i) % 2 = 0 := by
  rw [trig_iff_tests] at h ⊢
  obtain ⟨h0, hd, h3⟩ := h
  rw [Nat.shiftRight_eq_div_pow, ← Nat.dvd_iff_mod_eq_zero (m := 2), Nat.dvd_div_iff_mul_dvd hd, ← Nat.pow_succ]
  exact ⟨fun h => h.2.1, fun h => ⟨h0, h, h3⟩⟩

/-- the size the elimination test compares the border with -/
def eff (g : Gen) : Nat := g.fixedSize.getD g.inputSize

/-- bounds every size the elimination test has compared the border with so far: the declared size once
    there is one, the processed size before (which only grows between resets) -/
def effM (g : Gen) : Nat := max (eff g) g.inputSize

theorem eff_stepByte (g : Gen) (ch : UInt8) : eff (g.stepByte ch) = eff g := by
  have f := Gen.stepByte_frame g ch
  have f1 : (g.stepByte ch).inputSize = g.inputSize := congrArg (·.1) f
  have f2 : (g.stepByte ch).fixedSize = g.fixedSize := congrArg (·.2.1) f
  unfold eff
  rw [f1, f2]

/-- the engine state `g` simulates the reference engine `n` (both after the same bytes).
    `live`: active levels agree on their live parts.  `virgin`: the levels not yet forked, up to the fork
    limit, have stored nothing in the reference engine.  `elim`: an eliminated level `k` can never be selected
    by finalisation: the size (`effM`) has passed `192·2^k`, so the search for the block size starts above
    level `k`, and it stops at level `k + 1` at the latest, which holds 32 pieces.  Here 192 = 3·64 is the size
    unit (`Gen.SIZE_UNIT`: 64 pieces of the block size `3·2^k` of level `k` make `192·2^k` bytes) and 32 is
    half the pieces of a block hash; `mask` and `border` give `roll_mask` and `elim_border` in these terms.
    `lim`: the fork limit is at most 30.  `last`: with the fork limit at 30 the last-piece hash mirrors
    level 31: it is switched on exactly when level 30 has stored a piece, and is then the running hash of
    level 31.  `top`: while a fork is still possible the top active level has stored nothing yet.
    `trg`: every active level but the top one has stored a piece. -/
structure Sim (g : Gen) (n : Naive) : Prop where
  roll : g.roll = n.roll
  np : g.panicked = false
  csize : g.ctx.size = 31
  bsize : ∀ k, (g.ctxAt k).bh.size = 64
  lim : g.bhEndLimit ≤ 30
  st_lt : g.bhStart < g.bhEnd
  en_le : g.bhEnd ≤ 31
  live : ∀ k, g.bhStart ≤ k → k < g.bhEnd → Live (g.ctxAt k) (n.at k)
  virgin : ∀ k, g.bhEnd ≤ k → k ≤ g.bhEndLimit → (n.at k).idx = 0
  elim : ∀ k, k < g.bhStart → 192 * 2 ^ k < effM g ∧ 32 ≤ (n.at (k + 1)).idx
  mask : g.rollMask = 2 ^ g.bhStart - 1
  border : g.elimBorder = 192 * 2 ^ g.bhStart
  last : g.bhEndLimit = 30 →
    ((g.isLast = true ↔ 1 ≤ (n.at 30).idx) ∧ (g.isLast = true → g.hLast = (n.at 31).hFull))
  top : g.bhEnd ≤ g.bhEndLimit → (n.at (g.bhEnd - 1)).idx = 0
  trg : ∀ k, g.bhStart ≤ k → k + 1 < g.bhEnd → 1 ≤ (n.at k).idx

theorem ctxAt_new (k : Nat) : Gen.new.ctxAt k = Ctx.new := getD_replicate_self 31 k Ctx.new

/-- an engine in its initial configuration, whatever stale cells its contexts hold, simulates the empty
    reference engine.  `p` is kept a variable (a reset engine carries `g.panicked`): with the literal `false`
    the unifier unfolds the array write when matching -/
theorem sim_fresh (c : Array Ctx) (hl : UInt8) (p : Bool) (hp : p = false) (hcs : c.size = 31)
    (hbs : ∀ k, (c.getD k Ctx.new).bh.size = 64) (h0 : Live (c.getD 0 Ctx.new) Ctx.new) :
    Sim { Gen.new with ctx := c, hLast := hl, panicked := p } Naive.new where
  roll := rfl
  np := hp
  csize := hcs
  bsize := hbs
  lim := Nat.le_refl 30
  st_lt := Nat.zero_lt_one
  en_le := (by decide : 1 ≤ 31)
  live := fun k _ h2 => by rw [Nat.lt_one_iff.mp h2, at_new]; exact h0
  virgin := fun k _ _ => by rw [at_new]; rfl
  elim := fun k hk => absurd hk (Nat.not_lt_zero k)
  mask := rfl
  border := rfl
  last := fun _ => by
    rw [at_new]
    exact ⟨⟨fun h => absurd h Bool.false_ne_true, fun h => absurd h (Nat.not_succ_le_zero 0)⟩,
      fun h => absurd h Bool.false_ne_true⟩
  top := fun _ => by rw [at_new]; rfl
  trg := fun k _ h2 => absurd h2 (Nat.not_lt.mpr (Nat.le_add_left 1 k))

theorem sim_new : Sim Gen.new Naive.new :=
  sim_fresh Gen.new.ctx Gen.new.hLast false rfl Array.size_replicate
    (fun k => by show (Gen.new.ctxAt k).bh.size = 64; rw [ctxAt_new]; exact WF_new.size)
    (by show Live (Gen.new.ctxAt 0) Ctx.new; rw [ctxAt_new]; exact Live.refl _ WF_new.size)

end Ffuzzy.GenSim
