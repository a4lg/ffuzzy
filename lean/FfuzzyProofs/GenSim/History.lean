/-
  Every history of generator calls.  The engine state reached by any sequence of
  `update` / `update_by_iter` / `update_by_byte` / `set_fixed_input_size` / `reset` calls simulates the
  reference engine fed with the bytes delivered since the last reset, so every finalisation returns the
  reference digest of those bytes — or the size-mismatch error when a declared size differs.
-/
import FfuzzyProofs.GenSim.Final
namespace Ffuzzy.GenSim
open Ffuzzy.Spec

/-- generator calls that change the state (`finalize*`, `clone`, `input_size` and the warning query take `&self`) -/
inductive GOp where
  | update (bs : List UInt8)
  | iter (bs : List UInt8)
  | byte (c : UInt8)
  | hint (size : Nat)
  | reset
  deriving Repr

def GOp.apply (g : Gen) : GOp → Gen
  | .update bs => g.update bs
  | .iter bs => g.updateByIter bs
  | .byte c => g.updateByByte c
  | .hint s => match g.setFixedInputSize s with
    | .ok g' => g'
    | .error _ => g
  | .reset => g.reset

/-- the abstract state of a history, what the caller knows: the bytes delivered since the last reset and
    the accepted size declaration -/
structure Abs where
  bytes : List UInt8
  hint : Option Nat

def Abs.apply (a : Abs) : GOp → Abs
  | .update bs => { a with bytes := a.bytes ++ bs }
  | .iter bs => { a with bytes := a.bytes ++ bs }
  | .byte c => { a with bytes := a.bytes ++ [c] }
  | .hint s =>
    if s > Gen.MAX_INPUT_SIZE then a
    else if a.hint.isSome && a.hint != some s then a
    else { a with hint := some s }
  | .reset => { bytes := [], hint := none }

/-- the specified result of a finalisation -/
def Abs.digest (a : Abs) (trunc : Bool) (s2 : Nat) : Except GenErr Digest :=
  if a.hint.isSome && a.hint != some (min a.bytes.length U64_MAX) then .error .fixedSizeMismatch
  else naiveDigest a.bytes trunc s2

/-- the history invariant `J g a`: the engine state `g` simulates the reference engine on the bytes of the
    abstract state `a` and carries its declaration.  `limN`, `limS`: the fork limit is 30 without a
    declaration and what `set_fixed_input_size` computes from a declared one; `hintLe`: an accepted
    declaration is within the size limit -/
structure J (g : Gen) (a : Abs) : Prop where
  sim : Sim g (Naive.feed a.bytes)
  size : g.inputSize = min a.bytes.length U64_MAX
  hint : g.fixedSize = a.hint
  limN : a.hint = none → g.bhEndLimit = 30
  limS : ∀ s, a.hint = some s → g.bhEndLimit = min 30 (Gen.logBlockSizeFromInputSize s 0 + 1)
  hintLe : ∀ s, a.hint = some s → s ≤ Gen.MAX_INPUT_SIZE

/-- the relation survives what the calls between byte steps do to the sizes and the fork limit:
    the size the border is compared with may grow, the fork limit may fall -/
theorem sim_weaken (g : Gen) (n : Naive) (h : Sim g n) (s : Nat) (f : Option Nat) (l : Nat)
    (hM : effM g ≤ effM { g with inputSize := s, fixedSize := f, bhEndLimit := l }) (hl : l ≤ g.bhEndLimit) :
    Sim { g with inputSize := s, fixedSize := f, bhEndLimit := l } n :=
  { h with
    lim := Nat.le_trans hl h.lim
    virgin := fun k h1 h2 => h.virgin k h1 (Nat.le_trans h2 hl)
    elim := fun k hk => ⟨Nat.lt_of_lt_of_le (h.elim k hk).1 hM, (h.elim k hk).2⟩
    last := fun h30 => h.last (Nat.le_antisymm h.lim (h30 ▸ hl))
    top := fun hh => h.top (Nat.le_trans hh hl) }

theorem sim_resize (g : Gen) (n : Naive) (s : Nat) (h : Sim g n) (hs : g.inputSize ≤ s) :
    Sim { g with inputSize := s } n := by
  refine sim_weaken g n h s g.fixedSize g.bhEndLimit ?_ (Nat.le_refl _)
  unfold effM eff
  cases g.fixedSize with
  | none => simp only [Option.getD_none]; omega
  | some x => simp only [Option.getD_some]; omega

theorem fold_sim (bs : List UInt8) : ∀ (g : Gen) (n : Naive) (pre : List UInt8), Sim g n → NInv n pre →
    Sim (bs.foldl Gen.stepByte g) (bs.foldl Naive.step n) := by
  induction bs with
  | nil => intro g n pre h _; exact h
  | cons c cs ih =>
    intro g n pre h hN
    exact ih _ _ (pre ++ [c]) (step_sim n pre c hN g h).1 (ninv_step n pre c hN)

theorem min_satAdd (l k : Nat) : Gen.satAdd (min l U64_MAX) k = min (l + k) U64_MAX :=
  (Gen.satAdd_assoc l 0 k).trans (by rw [Nat.zero_add]; rfl)

theorem J_update (g : Gen) (a : Abs) (bs : List UInt8) (h : J g a) : J (g.update bs) { a with bytes := a.bytes ++ bs } := by
  have hfr := Gen.update_inputSize g bs
  refine { sim := ?_, size := ?_, hint := by rw [hfr.2.1]; exact h.hint,
           limN := fun e => by rw [hfr.2.2]; exact h.limN e,
           limS := fun s e => by rw [hfr.2.2]; exact h.limS s e, hintLe := h.hintLe }
  · show Sim (g.update bs) (Naive.feed (a.bytes ++ bs))
    rw [feed_append]
    unfold Gen.update
    apply fold_sim bs _ _ a.bytes _ (ninv_feed a.bytes)
    apply sim_resize g _ _ h.sim
    unfold Gen.satAdd
    have := h.size
    omega
  · show (g.update bs).inputSize = min (a.bytes ++ bs).length U64_MAX
    rw [hfr.1, h.size, min_satAdd, List.length_append]

/-- `update_by_byte(c)` is `update(&[c])` by unfolding: both account one byte, then run `stepByte` on `c` -/
theorem J_byte (g : Gen) (a : Abs) (c : UInt8) (h : J g a) : J (g.updateByByte c) { a with bytes := a.bytes ++ [c] } :=
  J_update g a [c] h

theorem J_updates (cs : List (List UInt8)) : ∀ (g : Gen) (a : Abs), J g a →
    J (cs.foldl Gen.update g) { a with bytes := a.bytes ++ cs.flatten } := by
  induction cs with
  | nil => intro g a h; rw [List.flatten_nil, List.append_nil]; exact h
  | cons c cs ih =>
    intro g a h
    rw [List.flatten_cons, ← List.append_assoc]
    exact ih _ _ (J_update g a c h)

theorem J_iter (bs : List UInt8) : ∀ (g : Gen) (a : Abs), J g a → J (g.updateByIter bs) { a with bytes := a.bytes ++ bs } := by
  intro g a h
  -- the iterator form is a run of one-byte `update` calls
  have := J_updates (bs.map fun c => [c]) g a h
  rwa [List.foldl_map, ← List.flatMap_def, List.flatMap_singleton'] at this

theorem J_hint (g : Gen) (a : Abs) (s : Nat) (h : J g a) : J (GOp.apply g (.hint s)) (a.apply (.hint s)) := by
  unfold GOp.apply Abs.apply Gen.setFixedInputSize
  rw [h.hint]
  by_cases h1 : s > Gen.MAX_INPUT_SIZE
  · simp only [h1, if_true]; exact h
  by_cases h2 : (a.hint.isSome && a.hint != some s) = true
  · simp only [h1, h2, if_true, if_false]; exact h
  simp only [h1, h2, Bool.false_eq_true, if_false]
  -- an accepted declaration is the first or repeats the one in force: the size the border is compared
  -- with does not fall, the fork limit does not rise
  have key : min 30 (Gen.logBlockSizeFromInputSize s 0 + 1) ≤ g.bhEndLimit ∧
      effM g ≤ effM { g with fixedSize := some s, bhEndLimit := min 30 (Gen.logBlockSizeFromInputSize s 0 + 1) } := by
    unfold effM eff
    rcases (Gen.hint_ok_iff _ _).mp h2 with ha | ha
    · rw [h.limN ha, h.hint, ha]
      exact ⟨Nat.min_le_left _ _, by simp only [Option.getD_none, Option.getD_some]; omega⟩
    · rw [h.limS s ha, h.hint, ha]
      exact ⟨Nat.le_refl _, Nat.le_refl _⟩
  exact { sim := sim_weaken g _ h.sim g.inputSize (some s) _ key.2 key.1, size := h.size, hint := rfl
          limN := fun e => absurd e (Option.some_ne_none s)
          limS := fun x e => Option.some.inj e ▸ rfl
          hintLe := fun x e => Option.some.inj e ▸ Nat.le_of_not_lt h1 }

theorem J_reset (g : Gen) (a : Abs) (h : J g a) : J g.reset { bytes := [], hint := none } := by
  have S := h.sim
  have h0 : 0 < g.ctx.size := by rw [S.csize]; omega
  have hl0 : Live (g.ctxAt 0).reset Ctx.new :=
    Live_reset _ Ctx.new (S.bsize 0) WF_new.size rfl rfl (getD_replicate_self 64 63 NIL)
  refine { sim := ?_, size := rfl, hint := rfl, limN := fun _ => rfl,
           limS := fun s e => absurd e.symm (Option.some_ne_none s),
           hintLe := fun s e => absurd e.symm (Option.some_ne_none s) }
  -- a reset engine is a new one but for stale cells in its contexts
  show Sim { Gen.new with ctx := g.ctx.modify 0 Ctx.reset, hLast := g.hLast, panicked := g.panicked } Naive.new
  refine sim_fresh _ _ _ S.np (by rw [Array.size_modify]; exact S.csize) (fun k => ?_) ?_
  · rw [getD_modify _ _ _ _ _ h0]
    by_cases hk : k = 0
    · rw [if_pos hk]; exact hl0.sa
    · rw [if_neg hk]; exact S.bsize k
  · rw [getD_modify _ _ _ _ _ h0, if_pos rfl]; exact hl0

theorem J_new : J Gen.new { bytes := [], hint := none } :=
  { sim := sim_new, size := rfl, hint := rfl, limN := fun _ => rfl, limS := fun s e => by simp at e,
    hintLe := fun s e => by simp at e }

theorem J_apply (g : Gen) (a : Abs) (op : GOp) (h : J g a) : J (GOp.apply g op) (a.apply op) := by
  cases op with
  | update bs => exact J_update g a bs h
  | iter bs => exact J_iter bs g a h
  | byte c => exact J_byte g a c h
  | hint s => exact J_hint g a s h
  | reset => exact J_reset g a h

theorem J_history (ops : List GOp) : ∀ (g : Gen) (a : Abs), J g a → J (ops.foldl GOp.apply g) (ops.foldl Abs.apply a) := by
  induction ops with
  | nil => intro g a h; exact h
  | cons op ops ih => intro g a h; exact ih _ _ (J_apply g a op h)

theorem J_final (g : Gen) (a : Abs) (h : J g a) (trunc : Bool) (s2 : Nat) (hs2 : s2 = 32 ∨ s2 = 64) :
    g.finalizeRaw trunc s2 = a.digest trunc s2 := by
  unfold Abs.digest
  by_cases hm : (a.hint.isSome && a.hint != some (min a.bytes.length U64_MAX)) = true
  · rw [if_pos hm]
    unfold Gen.finalizeRaw
    rw [h.hint, h.size, if_pos hm]
  · rw [if_neg hm]
    have hN := ninv_feed a.bytes
    have hok := (Gen.hint_ok_iff _ _).mp hm
    refine final_sim g (Naive.feed a.bytes) a.bytes h.sim hN (by rw [h.hint, h.size]; exact hok) ?_
      (by rw [h.size, hN.size]) trunc s2 hs2
    rw [hN.size]
    rcases hok with ha | ha
    · exact Or.inl (h.limN ha)
    · -- a declared size is within the limit, so it is the length itself, not the saturated count
      have hx := h.hintLe _ ha
      have e : min a.bytes.length U64_MAX = a.bytes.length := by
        unfold Gen.MAX_INPUT_SIZE at hx; unfold U64_MAX at hx ⊢; omega
      rw [h.limS _ ha, e]
      omega

end Ffuzzy.GenSim
