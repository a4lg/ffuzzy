/-
  The loop `bh_loop_2!` of the engine's byte step against one byte of the reference engine: the loop
  invariant `LI`, the state `LF` between the two halves of an iteration and the state `AI` after it.
-/
import FfuzzyProofs.GenSim.Engine
namespace Ffuzzy.GenSim
open Ffuzzy.Spec

section
variable (n : Naive) (bs : List UInt8) (ch : UInt8)

/-- loop invariant at the top of iteration `i` of `bh_loop_2!`: `Sim` with the levels below `i` already in
    their state after the byte (`done`) and those from `i` on after the hash update only (`pend`).  `E`, `M`:
    the values of `eff`, `effM`, which the loop leaves alone; `trigi`: the loop arrives at level `i` only when
    a piece ends there -/
structure LI (g : Gen) (i E M : Nat) : Prop where
  np : g.panicked = false
  csize : g.ctx.size = 31
  bsize : ∀ k, (g.ctxAt k).bh.size = 64
  lim : g.bhEndLimit ≤ 30
  effE : eff g = E
  effMM : effM g = M
  EM : E ≤ M
  roll : g.roll = (n.step ch).roll
  st_le : g.bhStart ≤ i
  i_lt : i < g.bhEnd
  en_le : g.bhEnd ≤ 31
  trigi : trig i (vOf n ch) = true
  done : ∀ k, g.bhStart ≤ k → k < i → Live (g.ctxAt k) ((n.step ch).at k)
  pend : ∀ k, i ≤ k → k < g.bhEnd → Live (g.ctxAt k) (mid n ch k)
  virgin : ∀ k, g.bhEnd ≤ k → k ≤ g.bhEndLimit → (n.at k).idx = 0
  elim : ∀ k, k < g.bhStart → 192 * 2 ^ k < M ∧ 32 ≤ ((n.step ch).at (k + 1)).idx
  mask : g.rollMask = 2 ^ g.bhStart - 1
  border : g.elimBorder = 192 * 2 ^ g.bhStart
  last : g.bhEndLimit = 30 →
    ((g.isLast = true ↔ 1 ≤ (n.at 30).idx) ∧ (g.isLast = true → g.hLast = fnvAll' bs ch))
  top : g.bhEnd ≤ g.bhEndLimit → (n.at (g.bhEnd - 1)).idx = 0
  trg : ∀ k, i ≤ k → k + 1 < g.bhEnd → 1 ≤ (n.at k).idx
  /-- the cascade clause: a level `i` that is full (its index at 63) is the first active one, or the border
      already covers the size.  So the elimination test passes at the first active level only, where its
      conjunct `bhidx_end - bhidx_start >= 2` puts `bh_next!()` inside the active range: the read is safe, and
      `bhidx_start + 1` drops exactly level `i` -/
  casc : (n.at i).idx = 63 → (g.bhStart = i ∨ E ≤ g.elimBorder)

/-- state after the fork / last-hash activation half of iteration `i`: as `LI` except that `last` counts the
    activation of this iteration (`∨ i = 30`), `trg` starts above `i`, and `notop` is added: where a fork is
    still possible level `i` is not the top one (it has just forked if it was) -/
structure LF (g : Gen) (i E M : Nat) : Prop where
  np : g.panicked = false
  csize : g.ctx.size = 31
  bsize : ∀ k, (g.ctxAt k).bh.size = 64
  lim : g.bhEndLimit ≤ 30
  effE : eff g = E
  effMM : effM g = M
  EM : E ≤ M
  roll : g.roll = (n.step ch).roll
  st_le : g.bhStart ≤ i
  i_lt : i < g.bhEnd
  en_le : g.bhEnd ≤ 31
  trigi : trig i (vOf n ch) = true
  done : ∀ k, g.bhStart ≤ k → k < i → Live (g.ctxAt k) ((n.step ch).at k)
  pend : ∀ k, i ≤ k → k < g.bhEnd → Live (g.ctxAt k) (mid n ch k)
  virgin : ∀ k, g.bhEnd ≤ k → k ≤ g.bhEndLimit → (n.at k).idx = 0
  elim : ∀ k, k < g.bhStart → 192 * 2 ^ k < M ∧ 32 ≤ ((n.step ch).at (k + 1)).idx
  mask : g.rollMask = 2 ^ g.bhStart - 1
  border : g.elimBorder = 192 * 2 ^ g.bhStart
  last : g.bhEndLimit = 30 →
    ((g.isLast = true ↔ (1 ≤ (n.at 30).idx ∨ i = 30)) ∧ (g.isLast = true → g.hLast = fnvAll' bs ch))
  top : g.bhEnd ≤ g.bhEndLimit → (n.at (g.bhEnd - 1)).idx = 0
  notop : g.bhEnd ≤ g.bhEndLimit → i + 1 < g.bhEnd
  trg : ∀ k, i < k → k + 1 < g.bhEnd → 1 ≤ (n.at k).idx
  casc : (n.at i).idx = 63 → (g.bhStart = i ∨ E ≤ g.elimBorder)

/-- state after iteration `i`: as `LF` except that level `i` has moved from `pend` to `done`, the first active
    level may be `i + 1` (`st_le`, with `st_lt` to keep the range non-empty), and `casc` speaks of level
    `i + 1`, if it is active -/
structure AI (g : Gen) (i E M : Nat) : Prop where
  np : g.panicked = false
  csize : g.ctx.size = 31
  bsize : ∀ k, (g.ctxAt k).bh.size = 64
  lim : g.bhEndLimit ≤ 30
  effE : eff g = E
  effMM : effM g = M
  EM : E ≤ M
  roll : g.roll = (n.step ch).roll
  st_le : g.bhStart ≤ i + 1
  st_lt : g.bhStart < g.bhEnd
  i_lt : i < g.bhEnd
  en_le : g.bhEnd ≤ 31
  trigi : trig i (vOf n ch) = true
  done : ∀ k, g.bhStart ≤ k → k ≤ i → Live (g.ctxAt k) ((n.step ch).at k)
  pend : ∀ k, i < k → k < g.bhEnd → Live (g.ctxAt k) (mid n ch k)
  virgin : ∀ k, g.bhEnd ≤ k → k ≤ g.bhEndLimit → (n.at k).idx = 0
  elim : ∀ k, k < g.bhStart → 192 * 2 ^ k < M ∧ 32 ≤ ((n.step ch).at (k + 1)).idx
  mask : g.rollMask = 2 ^ g.bhStart - 1
  border : g.elimBorder = 192 * 2 ^ g.bhStart
  last : g.bhEndLimit = 30 →
    ((g.isLast = true ↔ (1 ≤ (n.at 30).idx ∨ i = 30)) ∧ (g.isLast = true → g.hLast = fnvAll' bs ch))
  top : g.bhEnd ≤ g.bhEndLimit → (n.at (g.bhEnd - 1)).idx = 0
  notop : g.bhEnd ≤ g.bhEndLimit → i + 1 < g.bhEnd
  trg : ∀ k, i < k → k + 1 < g.bhEnd → 1 ≤ (n.at k).idx
  casc : (n.at (i + 1)).idx = 63 → i + 1 < g.bhEnd → (g.bhStart = i + 1 ∨ E ≤ g.elimBorder)

theorem forkStep_pos (g : Gen) (i : Nat) (h0 : (g.ctxAt i).idx ≠ 0) : g.forkStep i = g := by
  unfold Gen.forkStep; simp only [h0, if_false]

theorem forkStep_last (g : Gen) (i : Nat) (h0 : (g.ctxAt i).idx = 0) (hl : g.bhEnd > g.bhEndLimit) :
    g.forkStep i =
      if (g.bhEndLimit = 30 && !g.isLast) = true then { g with hLast := (g.ctxAt i).hFull, isLast := true } else g := by
  unfold Gen.forkStep; simp only [h0, if_true, hl]

theorem forkStep_fork (g : Gen) (i : Nat) (h0 : (g.ctxAt i).idx = 0) (hl : ¬ g.bhEnd > g.bhEndLimit) (hi : i + 1 < 31) :
    g.forkStep i = { g with
      ctx := g.ctx.setIfInBounds (i + 1)
        { (g.ctxAt (i + 1)).reset with hFull := (g.ctxAt i).hFull, hHalf := (g.ctxAt i).hHalf },
      bhEnd := g.bhEnd + 1 } := by
  unfold Gen.forkStep; simp only [h0, if_true, hl, hi, if_false]

/-- first half of an iteration: the fork of level `i + 1`, or the activation of the last-piece hash, when level `i`
    holds no piece yet -/
theorem fork_spec (hN : NInv n bs) (g : Gen) (i E M : Nat) (h : LI n bs ch g i E M) :
    LF n bs ch (g.forkStep i) i E M := by
  have hcur := h.pend i (Nat.le_refl _) h.i_lt
  have hidx : (g.ctxAt i).idx = (n.at i).idx := by rw [hcur.idx, mid_idx]
  have hilt := h.i_lt
  have hen := h.en_le
  have htrg : ∀ k, i < k → k + 1 < g.bhEnd → 1 ≤ (n.at k).idx := fun k hk => h.trg k (by omega)
  by_cases h0 : (g.ctxAt i).idx = 0
  · -- the context is empty: it is the top one
    have hn0 : (n.at i).idx = 0 := by rw [← hidx]; exact h0
    have htop : i + 1 = g.bhEnd := by
      by_cases e : i + 1 < g.bhEnd
      · have := h.trg i (Nat.le_refl _) e; omega
      · omega
    have hv := hN.virgin i (by omega) hn0
    have hfull : (g.ctxAt i).hFull = fnvAll' bs ch := by
      rw [hcur.hFull, fnvAll'_eq]; unfold mid; rw [upd_hFull, hv.1]
    have hhalf : (g.ctxAt i).hHalf = fnvAll' bs ch := by
      rw [hcur.hHalf, fnvAll'_eq]; unfold mid; rw [upd_hHalf, hv.2.1]
    by_cases hl : g.bhEnd > g.bhEndLimit
    · -- at the fork limit: with limit 30 the last-piece hash is (or already was) switched on
      rw [forkStep_last g i h0 hl]
      have hi30 : g.bhEndLimit = 30 → i = 30 := by omega
      split
      · -- `h : LI …` as the source of an `LF …`: `with` copies the fields of the same name
        exact { h with
          last := fun h30 => ⟨⟨fun _ => Or.inr (hi30 h30), fun _ => rfl⟩, fun _ => hfull⟩
          notop := fun hh => absurd hh (Nat.not_le_of_gt hl), trg := htrg }
      · next hset =>
        refine { h with last := fun h30 => ?_, notop := fun hh => absurd hh (Nat.not_le_of_gt hl), trg := htrg }
        have hisl : g.isLast = true := by
          cases hb : g.isLast
          · exact absurd (by simp [h30, hb]) hset
          · rfl
        exact ⟨⟨fun _ => Or.inr (hi30 h30), fun _ => hisl⟩, (h.last h30).2⟩
    · -- fork: the next context starts as a copy of this one, and the reference level is untouched so far
      have hi1 : i + 1 < 31 := by have := h.lim; omega
      rw [forkStep_fork g i h0 hl hi1]
      have hvn := h.virgin (i + 1) (by omega) (by omega)
      obtain ⟨nextF, nextH, nextCh, next63⟩ := hN.virgin (i + 1) (by omega) hvn
      have hnew : Live { (g.ctxAt (i + 1)).reset with hFull := (g.ctxAt i).hFull, hHalf := (g.ctxAt i).hHalf }
          (mid n ch (i + 1)) := by
        have e1 : (g.ctxAt i).hFull = (mid n ch (i + 1)).hFull := by
          rw [hfull, fnvAll'_eq]; unfold mid; rw [upd_hFull, nextF]
        have e2 : (g.ctxAt i).hHalf = (mid n ch (i + 1)).hHalf := by
          rw [hhalf, fnvAll'_eq]; unfold mid; rw [upd_hHalf, nextH]
        rw [e1, e2]
        refine Live_reset _ _ (h.bsize (i + 1)) ?_ (by rw [mid_idx, hvn]) ?_ ?_
        · unfold mid; rw [upd_bh]; exact (hN.wf (i + 1) (by omega)).size
        · unfold mid; rw [upd_chHalf, nextCh]
        · unfold mid; rw [upd_bh, next63]
      have cat := fun k => getD_setIfInBounds g.ctx (i + 1) k
        { (g.ctxAt (i + 1)).reset with hFull := (g.ctxAt i).hFull, hHalf := (g.ctxAt i).hHalf } Ctx.new
        (by rw [h.csize]; exact hi1)
      refine { h with
        csize := Array.size_setIfInBounds.trans h.csize
        bsize := fun k => ?_
        i_lt := Nat.lt_succ_of_lt h.i_lt, en_le := by show g.bhEnd + 1 ≤ 31; omega
        done := fun k hk1 hk2 => ?_
        pend := fun k hk1 hk2 => ?_
        virgin := fun k hk1 hk2 => h.virgin k (Nat.le_of_succ_le hk1) hk2
        last := fun h30 => ?_
        top := fun _ => by show (n.at (g.bhEnd + 1 - 1)).idx = 0; rw [← htop]; exact hvn
        notop := fun _ => by show i + 1 < g.bhEnd + 1; omega
        trg := fun k hk1 hk2 => by change k + 1 < g.bhEnd + 1 at hk2; omega }
      · rw [Gen.ctxAt, cat k]; split
        · exact hnew.sa
        · exact h.bsize k
      · rw [Gen.ctxAt, cat k, if_neg (by omega)]; exact h.done k hk1 hk2
      · rw [Gen.ctxAt, cat k]
        split
        · next ek => rw [ek]; exact hnew
        · next ek => exact h.pend k hk1 (by change k < g.bhEnd + 1 at hk2; omega)
      · have hL := h.last h30
        refine ⟨⟨fun hh => Or.inl (hL.1.mp hh), fun hh => hh.elim hL.1.mpr fun e => ?_⟩, hL.2⟩
        change g.bhEndLimit = 30 at h30; omega
  · rw [forkStep_pos g i h0]
    have hpos : 1 ≤ (n.at i).idx := by rw [← hidx]; omega
    refine { h with last := fun h30 => ?_, notop := fun hle => ?_, trg := htrg }
    · have hL := h.last h30
      exact ⟨⟨fun hh => Or.inl (hL.1.mp hh), fun hh => hh.elim hL.1.mpr fun e => hL.1.mpr (e ▸ hpos)⟩, hL.2⟩
    · have ht := h.top hle
      by_cases e2 : i + 1 = g.bhEnd
      · rw [← e2, Nat.add_sub_cancel] at ht; omega
      · omega

/-- the piece store of the loop body -/
abbrev storeG (g : Gen) (i : Nat) : Gen := { g with ctx := g.ctx.setIfInBounds i (g.ctxAt i).storePiece }

theorem storeG_ctxAt (g : Gen) (i k : Nat) (hi : i < g.ctx.size) :
    (storeG g i).ctxAt k = if k = i then (g.ctxAt i).storePiece else g.ctxAt k :=
  getD_setIfInBounds g.ctx i k _ Ctx.new hi

/-- the state change of a block hash elimination; the moduli are 2^32 and 2^64, the widths of `roll_mask` and
    `elim_border` -/
abbrev elimG (g : Gen) : Gen :=
  { g with bhStart := g.bhStart + 1, rollMask := (g.rollMask * 2 + 1) % 4294967296,
           elimBorder := (g.elimBorder * 2) % 18446744073709551616 }

theorem elimStep_skip (g : Gen) (i : Nat) (w : Bool)
    (h : ¬ (w = true ∧ g.bhEnd - g.bhStart ≥ 2 ∧ g.elimBorder < eff g)) : g.elimStep i w = g := by
  unfold Gen.elimStep
  rw [if_neg]
  simpa only [Bool.and_eq_true, decide_eq_true_eq, and_assoc, eff] using h

theorem elimStep_test (g : Gen) (i : Nat) (w : Bool)
    (h : w = true ∧ g.bhEnd - g.bhStart ≥ 2 ∧ g.elimBorder < eff g) (hi : i + 1 < 31) :
    g.elimStep i w = if (g.ctxAt (i + 1)).idx ≥ 32 then elimG g else g := by
  unfold Gen.elimStep
  rw [if_pos, if_pos hi]
  simpa only [Bool.and_eq_true, decide_eq_true_eq, and_assoc, eff] using h

/-- mask and border after an elimination; nothing wraps below level 31 -/
theorem elim_arith (st : Nat) (h : st ≤ 30) :
    ((2 ^ st - 1) * 2 + 1) % 4294967296 = 2 ^ (st + 1) - 1 ∧
    (192 * 2 ^ st * 2) % 18446744073709551616 = 192 * 2 ^ (st + 1) := by
  have hp : 2 ^ st ≤ 2 ^ 30 := Nat.pow_le_pow_right (by omega) h
  have hpos := Nat.two_pow_pos st
  rw [Nat.pow_succ, Nat.mod_eq_of_lt (by omega), Nat.mod_eq_of_lt (by omega)]
  omega

/-- the store, then the elimination test with the index before the store -/
abbrev storeElimG (g : Gen) (i : Nat) : Gen := (storeG g i).elimStep i (decide ((g.ctxAt i).idx ≥ 63))

/-- the elimination test in the terms of the state before the store, which changes none of its operands -/
theorem storeElimG_skip (g : Gen) (i : Nat)
    (h : ¬ ((g.ctxAt i).idx ≥ 63 ∧ g.bhEnd - g.bhStart ≥ 2 ∧ g.elimBorder < eff g)) : storeElimG g i = storeG g i :=
  elimStep_skip (storeG g i) i _ fun hc => h ⟨of_decide_eq_true hc.1, hc.2⟩

theorem storeElimG_test (g : Gen) (i : Nat)
    (h : (g.ctxAt i).idx ≥ 63 ∧ g.bhEnd - g.bhStart ≥ 2 ∧ g.elimBorder < eff g) (hi : i + 1 < 31) :
    storeElimG g i = if ((storeG g i).ctxAt (i + 1)).idx ≥ 32 then elimG (storeG g i) else storeG g i :=
  elimStep_test (storeG g i) i _ ⟨decide_eq_true h.1, h.2⟩ hi

/-- second half of an iteration: the piece store of level `i`, then the elimination test.  The first conjunct is
    the bounds check of the store (`bhLoop2_unfold` needs it). -/
theorem store_elim_spec (hN : NInv n bs) (g : Gen) (i E M : Nat) (h : LF n bs ch g i E M) :
    (g.ctxAt i).idx < 64 ∧ AI n bs ch (storeElimG g i) i E M := by
  have hcur := h.pend i (Nat.le_refl _) h.i_lt
  have hidx : (g.ctxAt i).idx = (n.at i).idx := by rw [hcur.idx, mid_idx]
  have hen := h.en_le
  have hilt := h.i_lt
  have hstl := h.st_le
  have hwf := (hN.wf i (by omega)).idx
  have hm := hN.mono i (by omega)
  have hisz : i < g.ctx.size := by rw [h.csize]; omega
  have hstored : Live (g.ctxAt i).storePiece ((n.step ch).at i) := by
    rw [at_step n bs ch hN i (by omega), if_pos h.trigi]
    exact Live_store hcur (by omega)
  have cat := fun k => storeG_ctxAt g i k hisz
  have hbs : ∀ k, ((storeG g i).ctxAt k).bh.size = 64 := fun k => by
    rw [cat k]; split
    · exact hstored.sa
    · exact h.bsize k
  have hpend : ∀ k, i < k → k < g.bhEnd → Live ((storeG g i).ctxAt k) (mid n ch k) := fun k hk1 hk2 => by
    rw [cat k, if_neg (by omega)]; exact h.pend k (by omega) hk2
  -- without an elimination the state after the store is the state after the iteration, once the
  -- cascade clause is known for the next level
  have stay : ((n.at (i + 1)).idx = 63 → i + 1 < g.bhEnd → g.bhStart = i + 1 ∨ E ≤ g.elimBorder) →
      AI n bs ch (storeG g i) i E M := fun hc =>
    { h with
      csize := Array.size_setIfInBounds.trans h.csize
      bsize := hbs
      st_le := Nat.le_succ_of_le h.st_le, st_lt := Nat.lt_of_le_of_lt h.st_le h.i_lt
      done := fun k hk1 hk2 => by
        rw [cat k]; split
        · next ek => rw [ek]; exact hstored
        · next ek => exact h.done k hk1 (by omega)
      pend := hpend
      casc := hc }
  refine ⟨by omega, ?_⟩
  by_cases hcond : (g.ctxAt i).idx ≥ 63 ∧ g.bhEnd - g.bhStart ≥ 2 ∧ g.elimBorder < eff g
  · obtain ⟨hw, hge2, hb⟩ := hcond
    have hbE : g.elimBorder < E := h.effE ▸ hb
    -- the cascade argument: a full context with the border below the size is the first active one
    have hst : g.bhStart = i := (h.casc (by omega)).resolve_right (by omega)
    have hlt : i + 1 < g.bhEnd := by omega
    have hnext : ((storeG g i).ctxAt (i + 1)).idx = (n.at (i + 1)).idx := by
      rw [(hpend (i + 1) (by omega) hlt).idx, mid_idx]
    rw [storeElimG_test g i ⟨hw, hge2, hb⟩ (by omega), hnext]
    split
    · next h32 =>
      have hst30 : g.bhStart ≤ 30 := by omega
      refine { h with
        csize := Array.size_setIfInBounds.trans h.csize
        bsize := hbs
        st_le := by show g.bhStart + 1 ≤ i + 1; omega
        st_lt := by show g.bhStart + 1 < g.bhEnd; omega
        done := fun k hk1 hk2 => by change g.bhStart + 1 ≤ k at hk1; omega
        pend := hpend
        elim := fun k hk => ?_
        mask := by
          show (g.rollMask * 2 + 1) % 4294967296 = 2 ^ (g.bhStart + 1) - 1
          rw [h.mask]; exact (elim_arith _ hst30).1
        border := by
          show (g.elimBorder * 2) % 18446744073709551616 = 192 * 2 ^ (g.bhStart + 1)
          rw [h.border]; exact (elim_arith _ hst30).2
        casc := fun _ _ => Or.inl (by show g.bhStart + 1 = i + 1; omega) }
      change k < g.bhStart + 1 at hk
      by_cases ek : k = i
      · rw [ek]
        have hb2 := h.border
        have := h.EM
        have := idx_time_mono n bs ch hN (i + 1) (by omega)
        rw [hst] at hb2
        exact ⟨by omega, by omega⟩
      · exact h.elim k (by omega)
    · next h32 => exact stay fun h63 _ => by omega
  · rw [storeElimG_skip g i hcond]
    -- a full next level makes this one full (and so, by the cascade clause, the first active one):
    -- the test can only have failed on the border
    refine stay fun h63 hlt => (h.casc (by omega)).elim (fun hst => Or.inr ?_) Or.inr
    rw [← h.effE]
    exact Nat.le_of_not_lt fun hb => hcond ⟨by omega, by omega, hb⟩

/-- the loop goes on: a piece ends at level `i + 1` as well, and that level is active -/
theorem ai_cont (g : Gen) (i E M : Nat) (h : AI n bs ch g i E M) (ht : trig (i + 1) (vOf n ch) = true)
    (hlt : i + 1 < g.bhEnd) : LI n bs ch g (i + 1) E M := by
  have hen := h.en_le
  exact { h with
    i_lt := hlt, trigi := ht
    done := fun k h1 h2 => h.done k h1 (by omega)
    pend := fun k h1 h2 => h.pend k (by omega) h2
    last := fun h30 => ⟨⟨fun hh => ((h.last h30).1.mp hh).resolve_right (by omega),
                         fun hh => (h.last h30).1.mpr (Or.inl hh)⟩, (h.last h30).2⟩
    trg := fun k h1 h2 => h.trg k (by omega) h2
    casc := fun h63 => h.casc h63 hlt }

/-- the loop ends, on the trigger test or at the end of the active range: every level is in its state after the byte -/
theorem ai_exit (hN : NInv n bs) (g : Gen) (i E M : Nat) (h : AI n bs ch g i E M)
    (hx : trig (i + 1) (vOf n ch) = false ∨ g.bhEnd ≤ i + 1) : Sim g (n.step ch) := by
  have hN' := ninv_step n bs ch hN
  have hen := h.en_le
  have hlim := h.lim
  have hilt := h.i_lt
  have hnotop := h.notop
  -- no level above `i` that the relation speaks of ends a piece
  have notrig : ∀ k, i < k → k < g.bhEnd ∨ g.bhEnd ≤ g.bhEndLimit → k < 32 → (n.step ch).at k = mid n ch k :=
    fun k hk1 hk2 hk3 => by
      rcases hx with hx | hx
      · exact at_step_above n bs ch hN (i + 1) k hx hk1 hk3
      · omega
  refine { h with live := fun k h1 h2 => ?_, virgin := fun k h1 h2 => ?_, elim := h.effMM ▸ h.elim,
                  last := fun h30 => ?_, top := fun hle => ?_, trg := fun k h1 h2 => ?_ }
  · by_cases hk : k ≤ i
    · exact h.done k h1 hk
    · rw [notrig k (by omega) (Or.inl h2) (by omega)]
      exact h.pend k (by omega) h2
  · rw [notrig k (by omega) (Or.inr (by omega)) (by omega), mid_idx]
    exact h.virgin k h1 h2
  · have hL := h.last h30
    have key : 1 ≤ ((n.step ch).at 30).idx ↔ (1 ≤ (n.at 30).idx ∨ i = 30) := by
      constructor
      · intro hp
        by_cases e : i = 30
        · exact Or.inr e
        · rw [notrig 30 (by omega) (by omega) (by omega), mid_idx] at hp
          exact Or.inl hp
      · rintro (hp | hp)
        · have := idx_time_mono n bs ch hN 30 (by omega); omega
        · rw [← hp]; exact stored_pos n bs ch hN i (by omega) h.trigi
    refine ⟨hL.1.trans key.symm, fun hh => ?_⟩
    rw [hL.2 hh, fnvAll_31 _ _ hN']; rfl
  · rw [notrig (g.bhEnd - 1) (by omega) (Or.inl (by omega)) (by omega), mid_idx]
    exact h.top hle
  · by_cases hk : k ≤ i
    · exact stored_pos n bs ch hN k (by omega) (trig_below i k _ h.trigi hk)
    · have := h.trg k (by omega) h2
      have := idx_time_mono n bs ch hN k (by omega)
      omega

theorem bhLoop2_unfold (g : Gen) (i hh : Nat) (hi : i < 31)
    (hp1 : (g.forkStep i).panicked = false) (h64 : ((g.forkStep i).ctxAt i).idx < 64)
    (hp3 : (storeElimG (g.forkStep i) i).panicked = false) :
    Gen.bhLoop2 g i hh =
      if hh % 2 = 1 then storeElimG (g.forkStep i) i
      else if i + 1 ≥ (storeElimG (g.forkStep i) i).bhEnd then storeElimG (g.forkStep i) i
      else Gen.bhLoop2 (storeElimG (g.forkStep i) i) (i + 1) (hh / 2) := by
  rw [Gen.bhLoop2]
  simp only [hi, dite_true]
  rw [if_neg (by rw [hp1]; exact Bool.false_ne_true), if_neg (by omega)]
  rw [if_neg (by rw [hp3]; exact Bool.false_ne_true)]

/-- the whole loop from iteration `i` on; `(v + 1) / 3 >> i` is the engine's `h` at that iteration, whose low bit is
    clear exactly when a piece ends at level `i + 1` too (`trig_succ_iff`) -/
theorem loop_spec (hN : NInv n bs) (g : Gen) (i E M : Nat) (h : LI n bs ch g i E M) :
    Sim (Gen.bhLoop2 g i ((((vOf n ch) + 1).toNat / 3) >>> i)) (n.step ch) := by
  have hi31 : i < 31 := Nat.lt_of_lt_of_le h.i_lt h.en_le
  have hF := fork_spec n bs ch hN g i E M h
  obtain ⟨h64, hA⟩ := store_elim_spec n bs ch hN (g.forkStep i) i E M hF
  rw [bhLoop2_unfold g i _ hi31 hF.np h64 hA.np]
  have hts := trig_succ_iff (vOf n ch) i h.trigi
  by_cases hodd : ((((vOf n ch) + 1).toNat / 3) >>> i) % 2 = 1
  · rw [if_pos hodd]
    apply ai_exit n bs ch hN _ i E M hA
    left
    cases ht : trig (i + 1) (vOf n ch)
    · rfl
    · have := hts.mp ht; omega
  · rw [if_neg hodd]
    split
    · next hge => exact ai_exit n bs ch hN _ i E M hA (Or.inr hge)
    · next hge =>
      rw [← Nat.shiftRight_succ]
      exact loop_spec hN _ (i + 1) E M (ai_cont n bs ch _ i E M hA (hts.mpr (by omega)) (by omega))
termination_by 31 - i
decreasing_by omega

end
end Ffuzzy.GenSim
