/-
  The concrete position-array construction (`init_from_partial` after clearing) satisfies the
  abstract specification `Hyyro.PaSpec`.
-/
import FfuzzyModel.PosArray
import FfuzzyProofs.Hyyro
import FfuzzyProofs.Bits
namespace Ffuzzy.PosInit

theorem initLoop_length : ∀ (bs : List UInt8) (i : Nat) (rep : List (BitVec 64)),
    (PA.initLoop bs i rep).length = rep.length
  | [], _, _ => rfl
  | _ :: rest, i, rep => by rw [PA.initLoop, initLoop_length rest, List.length_set]

/-- invariant of the `for (i, &ch)` loop of `init_from_partial`: having read `pre`, the masks
    represent `pre` -/
theorem initLoop_spec : ∀ (bs pre : List UInt8) (rep : List (BitVec 64)), (∀ b ∈ bs, b.toNat < rep.length) →
    Hyyro.PaSpec pre (fun c => rep.getD c.toNat 0) →
    Hyyro.PaSpec (pre ++ bs) (fun c => (PA.initLoop bs pre.length rep).getD c.toNat 0)
  | [], pre, rep, _, h => by rwa [List.append_nil]
  | ch :: rest, pre, rep, hall, h => by
    have := initLoop_spec rest (pre ++ [ch]) (rep.set ch.toNat (rep.getD ch.toNat 0 ||| (1 : BitVec 64) <<< pre.length))
      (fun b hb => by rw [List.length_set]; exact hall b (List.mem_cons_of_mem _ hb)) ?_
    · rwa [List.length_append, List.length_singleton, List.append_assoc] at this
    · intro c j hj
      have hch := hall ch List.mem_cons_self
      show ((rep.set _ _).getD c.toNat 0).getLsbD j = _
      rw [getD_set _ _ _ _ _ hch, Bool.eq_iff_iff, decide_eq_true_eq, getElem?_snoc_eq_some]
      by_cases hc : ch = c
      · subst hc
        rw [if_pos rfl, BitVec.getLsbD_or, Bits.one_shl_getLsbD _ j hj, Bool.or_eq_true, h ch j hj, decide_eq_true_eq,
          decide_eq_true_eq, and_iff_left rfl]
      · rw [if_neg fun e => hc (UInt8.toNat_inj.mp e).symm, h c j hj, decide_eq_true_eq, or_iff_left fun e => hc e.2]

/-- C17 (`posArray_represents`, construction part): whatever the array held before, `init_from`
    succeeds on a string of at most 64 symbols and yields the fresh array of that string -/
theorem initFrom_eq (p : PA) (a : List UInt8) (hlen : a.length ≤ 64) (hall : ∀ b ∈ a, b.toNat < 64) :
    p.initFrom a = some (PA.new.initFromPartial a) := by
  have hall' : a.all (· < 64) = true :=
    List.all_eq_true.mpr fun b hb => decide_eq_true (hall b hb)
  simp [PA.initFrom, hlen, hall', PA.clearRepresentationOnly, PA.initFromPartial, PA.new]

theorem initFromPartial_len (p : PA) (a : List UInt8) (hlen : a.length ≤ 64) :
    (p.initFromPartial a).len.toNat = a.length := by
  simp only [PA.initFromPartial, Nat.toUInt8, UInt8.toNat_ofNat']
  omega

theorem initFromPartial_rep_length (p : PA) (a : List UInt8) : (p.initFromPartial a).rep.length = p.rep.length :=
  initLoop_length a 0 p.rep

theorem initFromPartial_spec (a : List UInt8) (hall : ∀ b ∈ a, b.toNat < 64) :
    Hyyro.PaSpec a (PA.new.initFromPartial a).get :=
  initLoop_spec a [] (List.replicate 64 0) (by rwa [List.length_replicate]) fun c j _ => by
    have : (List.replicate 64 (0 : BitVec 64)).getD c.toNat 0 = 0 := by
      rw [List.getD_eq_getElem?_getD, List.getElem?_replicate]
      split <;> rfl
    show BitVec.getLsbD (List.getD _ _ _) j = _
    rw [this]
    exact BitVec.getLsbD_zero

theorem initFrom_spec (p : PA) (a : List UInt8) (hlen : a.length ≤ 64) (hall : ∀ b ∈ a, b.toNat < 64) :
    ∃ q, p.initFrom a = some q ∧ q.rep.length = 64 ∧ q.len.toNat = a.length ∧ Hyyro.PaSpec a q.get :=
  ⟨_, initFrom_eq p a hlen hall, initFromPartial_rep_length _ a, initFromPartial_len _ a hlen,
    initFromPartial_spec a hall⟩

end Ffuzzy.PosInit
