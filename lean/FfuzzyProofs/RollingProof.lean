/-
  The rolling hash value after any byte string is the closed form over the last 7 bytes.
-/
import FfuzzyModel.Rolling
namespace Ffuzzy.Prim

/-- the plain sum of `rollSpecWindow` (its `s1`), under a name so that lemmas can speak of it -/
def wsum (w : List UInt8) : UInt32 := w.foldl (fun acc c => acc + c.toUInt32) 0

/-- the shift-xor fold of `rollSpecWindow` (its `s3`, where `acc = 0`), from any start value: the
    byte step continues the fold from the old `h3` -/
def h3fold (acc : UInt32) (w : List UInt8) : UInt32 := w.foldl (fun acc c => (acc <<< 5) ^^^ c.toUInt32) acc

theorem wsum_cons (c : UInt8) (w : List UInt8) : wsum (c :: w) = c.toUInt32 + wsum w := by
  have init : ∀ (l : List UInt8) (a : UInt32), l.foldl (fun acc c => acc + c.toUInt32) a = a + wsum l := by
    intro l
    induction l with
    | nil => intro a; simp [wsum]
    -- `grobner`: core's procedure for commutative rings (`UInt32`, modulo 2^32)
    | cons x xs ih => intro a; rw [wsum, List.foldl_cons, List.foldl_cons, ih, ih (0 + x.toUInt32)]; grobner
  rw [wsum, List.foldl_cons, init]; grobner

theorem wsum_append_single (w : List UInt8) (c : UInt8) : wsum (w ++ [c]) = wsum w + c.toUInt32 := by
  simp [wsum, List.foldl_append]

theorem weightedSum_shift (w : List UInt8) : ∀ k : UInt32,
    weightedSum w (k + 1) = weightedSum w k + wsum w := by
  induction w with
  | nil => intro k; simp [weightedSum, wsum]
  | cons c cs ih => intro k; simp only [weightedSum]; rw [ih, wsum_cons]; grobner

theorem weightedSum_append_single (w : List UInt8) (c : UInt8) : ∀ k : UInt32,
    weightedSum (w ++ [c]) k = weightedSum w k + (k + (w.length : Nat).toUInt32) * c.toUInt32 := by
  induction w with
  | nil => intro k; simp [weightedSum]
  | cons x xs ih =>
    intro k
    have : (xs.length + 1).toUInt32 = xs.length.toUInt32 + 1 := UInt32.ofNat_add _ 1
    rw [List.cons_append, weightedSum, weightedSum, ih, List.length_cons, this]; grobner

theorem h3fold_split (w : List UInt8) : ∀ a : UInt32,
    (h3fold a w).toBitVec = (a.toBitVec <<< (5 * w.length)) ^^^ (h3fold 0 w).toBitVec := by
  induction w with
  | nil => intro a; simp [h3fold]
  | cons c cs ih =>
    intro a
    have step : ∀ b : UInt32, h3fold b (c :: cs) = h3fold ((b <<< 5) ^^^ c.toUInt32) cs := fun _ => rfl
    have e : 5 * (cs.length + 1) = 5 + 5 * cs.length := by omega
    rw [step, step, ih, ih (((0 : UInt32) <<< 5) ^^^ c.toUInt32), List.length_cons, e, BitVec.shiftLeft_add,
      UInt32.toBitVec_xor, UInt32.toBitVec_xor, BitVec.shiftLeft_xor_distrib, BitVec.shiftLeft_xor_distrib]
    simp [BitVec.xor_assoc]

/-- seven bytes push everything older out of the 32 bits (7·5 = 35 ≥ 32) -/
theorem h3fold_forget (a : UInt32) (w : List UInt8) (hw : 7 ≤ w.length) : h3fold a w = h3fold 0 w := by
  apply UInt32.toBitVec_inj.mp
  rw [h3fold_split, BitVec.shiftLeft_eq_zero (by omega), BitVec.zero_xor]

/-- the logical window ("window of" `bs`): last 7 bytes of `zeros ++ bs`, oldest first.  It is `lastWindow bs`
    (`wof_eq_lastWindow`) in the form that has a step law, `wof_snoc`, without a case split on `bs.length < 7`. -/
def wof (bs : List UInt8) : List UInt8 := (List.replicate 7 0 ++ bs).drop bs.length

theorem wof_length (bs : List UInt8) : (wof bs).length = 7 := by
  rw [wof, List.length_drop, List.length_append, List.length_replicate]; omega

theorem wof_snoc (bs : List UInt8) (c : UInt8) : wof (bs ++ [c]) = (wof bs).drop 1 ++ [c] := by
  simp only [wof, List.length_append, List.length_cons, List.length_nil, List.drop_drop]
  rw [← List.append_assoc, List.drop_append_of_le_length (by simp)]

theorem wof_eq_lastWindow (bs : List UInt8) : wof bs = lastWindow bs := by
  simp only [wof, lastWindow, List.drop_append, List.drop_replicate, List.length_replicate, List.length_drop]
  congr 2
  omega

theorem rollSpec_eq_wof (bs : List UInt8) : rollSpec bs = rollSpecWindow (wof bs) := by
  rw [wof_eq_lastWindow]; rfl

/-- `r` is the state after the bytes `bs`: the ring buffer read from `index` on is the last seven bytes
    `wof bs`, and `h1`, `h2`, `h3` are the three sums of the closed form over them -/
structure RInv (r : Roll) (bs : List UInt8) : Prop where
  idx : r.index < 7
  wlen : r.window.length = 7
  rot : r.window.drop r.index ++ r.window.take r.index = wof bs
  h1 : r.h1 = wsum (wof bs)
  h2 : r.h2 = weightedSum (wof bs) 1
  h3 : r.h3 = h3fold 0 (wof bs)

theorem rinv_new : RInv Roll.new [] := by
  refine ⟨by decide, by decide, by decide, by decide, by decide, by decide⟩

/-- overwriting the oldest cell of a ring buffer and moving on = dropping the oldest, appending the new -/
theorem rot_set {α : Type} (w : List α) (i : Nat) (c : α) (hi : i < w.length) :
    (w.set i c).drop (i + 1) ++ (w.set i c).take (i + 1) = (w.drop i ++ w.take i).drop 1 ++ [c] := by
  rw [List.drop_set_of_lt (Nat.lt_succ_self i), List.take_succ_eq_append_getElem (by simpa using hi),
    List.take_set_of_le (Nat.le_refl i), List.getElem_set_self, List.drop_eq_getElem_cons hi,
    List.cons_append, List.drop_one, List.tail_cons, List.append_assoc]

theorem rinv_step (r : Roll) (bs : List UInt8) (c : UInt8) (h : RInv r bs) :
    RInv (r.updateByByte c) (bs ++ [c]) := by
  obtain ⟨hidx, hwlen, hrot, hh1, hh2, hh3⟩ := h
  have hi : r.index < r.window.length := by omega
  -- the logical window is the byte `x` about to be overwritten, followed by six more
  obtain ⟨x, T, hW, hx⟩ : ∃ x T, wof bs = x :: T ∧ r.window.getD r.index 0 = x :=
    ⟨_, _, by rw [← hrot, List.drop_eq_getElem_cons hi]; rfl, by simp [hi]⟩
  have hT : T.length = 6 := by have := wof_length bs; rw [hW] at this; simpa using this
  have hW' : wof (bs ++ [c]) = T ++ [c] := by rw [wof_snoc, hW]; rfl
  refine ⟨?_, ?_, ?_, ?_, ?_, ?_⟩ <;> simp only [Roll.updateByByte]
  · split <;> omega
  · rw [List.length_set, hwlen]
  · rw [wof_snoc, ← hrot, ← rot_set _ _ c hi]
    split
    · have hl : (r.window.set r.index c).length ≤ r.index + 1 := by rw [List.length_set]; omega
      rw [List.drop_of_length_le hl, List.take_of_length_le hl]; simp
    · rfl
  · rw [hW', wsum_append_single, hx, hh1, hW, wsum_cons]; grobner
  · rw [hW', weightedSum_append_single, hT, hh1, hh2, hW, weightedSum, weightedSum_shift, wsum_cons]
    have : (1 : UInt32) + (6 : Nat).toUInt32 = 7 := rfl
    rw [this]; grobner
  · -- the byte `x` that leaves the window has left `h3` as well
    rw [hh3, hW', hW]
    calc _ = h3fold 0 ((x :: T) ++ [c]) := List.foldl_append.symm
      _ = h3fold (h3fold 0 [x]) (T ++ [c]) := List.foldl_append (l := [x])
      _ = h3fold 0 (T ++ [c]) := h3fold_forget _ _ (by simp [hT])

theorem rinv_update (bs : List UInt8) :
    ∀ (r : Roll) (pre : List UInt8), RInv r pre → RInv (r.update bs) (pre ++ bs) := by
  induction bs with
  | nil =>
    intro r pre h
    rw [List.append_nil]
    exact h
  | cons c cs ih =>
    intro r pre h
    rw [List.append_cons]
    exact ih (r.updateByByte c) (pre ++ [c]) (rinv_step r pre c h)

theorem rinv_feed (bs : List UInt8) : RInv (Roll.new.update bs) bs := rinv_update bs Roll.new [] rinv_new

theorem roll_closed_form (bs : List UInt8) : (Roll.new.update bs).value = rollSpec bs := by
  have h := rinv_feed bs
  rw [Roll.value, h.h1, h.h2, h.h3, rollSpec_eq_wof]
  rfl

theorem roll_window_only (xs ys : List UInt8) (h : lastWindow xs = lastWindow ys) :
    (Roll.new.update xs).value = (Roll.new.update ys).value := by
  rw [roll_closed_form, roll_closed_form, rollSpec, rollSpec, h]

end Ffuzzy.Prim
