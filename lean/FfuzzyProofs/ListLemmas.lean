/-
  General facts that core does not have. Lists: induction from the right, slices and single cells read with
  `getD` / `getElem?`. The array helpers of `FfuzzyModel/Basic.lean`: `padTo`, and `setSlice`, the one way the
  model writes into an array (`fillSlice` and `List.set` are instances of it). `Array.getD` of `replicate`,
  `setIfInBounds` and `modify`. The casts between `Nat` and the machine integers, and `compare` through them.
-/
import FfuzzyModel.Basic
namespace Ffuzzy
universe u
variable {α : Type u}

theorem _root_.List.snoc_induction {P : List α → Prop} (hnil : P [])
    (hsnoc : ∀ (xs : List α) (x : α), P xs → P (xs ++ [x])) (l : List α) : P l := by
  have h : ∀ r : List α, P r.reverse := fun r => by
    induction r with
    | nil => exact hnil
    | cons x xs ih => rw [List.reverse_cons]; exact hsnoc _ _ ih
  exact List.reverse_reverse l ▸ h l.reverse

theorem take_drop_eq_iff (a b : List α) (i j n : Nat) :
    (a.drop i).take n = (b.drop j).take n ↔ ∀ t, t < n → a[i + t]? = b[j + t]? := by
  rw [List.ext_getElem?_iff]
  refine forall_congr' fun t => ?_
  rw [List.getElem?_take, List.getElem?_take, List.getElem?_drop, List.getElem?_drop]
  by_cases ht : t < n
  · rw [if_pos ht, if_pos ht, imp_iff_right ht]
  · rw [if_neg ht, if_neg ht]
    exact ⟨fun _ h => absurd h ht, fun _ => rfl⟩

theorem take_drop_succ {a : List α} {i n : Nat} (d : α) (hi : i < n) (hn : n ≤ a.length) :
    (a.drop i).take (n - i) = a.getD i d :: (a.drop (i + 1)).take (n - (i + 1)) := by
  have hlt : i < a.length := by omega
  rw [List.drop_eq_getElem_cons hlt, show n - i = (n - (i + 1)) + 1 by omega, List.take_succ_cons,
    List.getD_eq_getElem?_getD, List.getElem?_eq_getElem hlt, Option.getD_some]

theorem drop_succ_of_drop {l : List α} {n : Nat} {c : α} {r : List α} (h : l.drop n = c :: r) :
    l.drop (n + 1) = r := by
  rw [← List.drop_drop, h]; rfl

theorem getD_append_left {l : List α} (s : List α) {j : Nat} (d : α) (h : j < l.length) :
    (l ++ s).getD j d = l.getD j d := by
  rw [List.getD_eq_getElem?_getD, List.getD_eq_getElem?_getD, List.getElem?_append_left h]

theorem getD_concat_length (l : List α) (x d : α) : (l ++ [x]).getD l.length d = x := by
  rw [List.getD_eq_getElem?_getD, List.getElem?_concat_length]; rfl

theorem getElem?_snoc_eq_some (l : List α) (x c : α) (j : Nat) :
    (l ++ [x])[j]? = some c ↔ l[j]? = some c ∨ (j = l.length ∧ x = c) := by
  rcases Nat.lt_trichotomy j l.length with h | rfl | h
  · rw [List.getElem?_append_left h]
    exact ⟨Or.inl, fun h' => h'.resolve_right fun e => by omega⟩
  · rw [List.getElem?_concat_length, List.getElem?_eq_none (Nat.le_refl _), Option.some.injEq]
    exact ⟨fun e => Or.inr ⟨rfl, e⟩, fun h' => (h'.resolve_left nofun).2⟩
  · rw [List.getElem?_eq_none (by simp; omega), List.getElem?_eq_none (by omega)]
    exact ⟨nofun, fun h' => (h'.resolve_left nofun).elim fun e _ => by omega⟩

theorem getD_set (l : List α) (i j : Nat) (v d : α) (h : i < l.length) :
    (l.set i v).getD j d = if j = i then v else l.getD j d := by
  rw [List.getD_eq_getElem?_getD, List.getD_eq_getElem?_getD, List.getElem?_set, if_pos h]
  by_cases e : j = i
  · rw [if_pos e, if_pos e.symm]; rfl
  · rw [if_neg e, if_neg (Ne.symm e)]

theorem length_padTo {l : List α} {n : Nat} (v : α) (h : l.length ≤ n) : (padTo l n v).length = n := by
  simp only [padTo, List.length_append, List.length_replicate]; omega

theorem take_padTo (l : List α) (n : Nat) (v : α) : (padTo l n v).take l.length = l :=
  List.take_left' rfl

theorem drop_padTo (l : List α) (n : Nat) (v : α) :
    (padTo l n v).drop l.length = List.replicate (n - l.length) v :=
  List.drop_left' rfl

theorem padTo_nil (n : Nat) (v : α) : padTo [] n v = List.replicate n v := rfl

theorem padTo_cons (a : α) (l : List α) (n : Nat) (v : α) : padTo (a :: l) (n + 1) v = a :: padTo l n v := by
  rw [padTo, padTo, List.length_cons, Nat.add_sub_add_right, List.cons_append]

theorem take_padTo_of_le {l : List α} {m n : Nat} (v : α) (hl : l.length ≤ m) (hm : m ≤ n) :
    (padTo l n v).take m = padTo l m v := by
  rw [padTo, List.take_append, List.take_of_length_le hl, List.take_replicate, padTo,
    Nat.min_eq_left (by omega)]

theorem padTo_padTo {l : List α} {m n : Nat} (v : α) (hl : l.length ≤ m) (hm : m ≤ n) :
    padTo (padTo l m v) n v = padTo l n v := by
  rw [padTo, length_padTo v hl, padTo, List.append_assoc, List.replicate_append_replicate, padTo,
    Nat.add_comm, Nat.sub_add_sub_cancel hm hl]

theorem eq_padTo_take {l : List α} {k n : Nat} {v : α} (hl : l.length = n) (hk : k ≤ n)
    (ht : ∀ x ∈ l.drop k, x = v) : l = padTo (l.take k) n v := by
  have e : l.drop k = List.replicate (n - (l.take k).length) v :=
    List.eq_replicate_iff.mpr ⟨by rw [List.length_drop, List.length_take, hl, Nat.min_eq_left hk], ht⟩
  rw [padTo, ← e, List.take_append_drop]

theorem length_take_append (a s : List α) (i : Nat) (h : i + s.length ≤ a.length) :
    (a.take i ++ s).length = i + s.length := by
  simp only [List.length_append, List.length_take]; omega

theorem length_setSlice (a s : List α) (i : Nat) (h : i + s.length ≤ a.length) :
    (setSlice a i s).length = a.length := by
  rw [setSlice, List.length_append, length_take_append a s i h, List.length_drop, Nat.add_sub_cancel' h]

theorem take_setSlice (a s : List α) (i : Nat) (h : i + s.length ≤ a.length) :
    (setSlice a i s).take (i + s.length) = a.take i ++ s :=
  List.take_left' (length_take_append a s i h)

theorem drop_setSlice (a s : List α) (i : Nat) (h : i + s.length ≤ a.length) :
    (setSlice a i s).drop (i + s.length) = a.drop (i + s.length) :=
  List.drop_left' (length_take_append a s i h)

theorem setSlice_nil (a : List α) (i : Nat) : setSlice a i [] = a := by
  rw [setSlice, List.append_nil, List.length_nil, Nat.add_zero, List.take_append_drop]

theorem setSlice_setSlice (a s t : List α) (i : Nat) (h : i + s.length ≤ a.length) :
    setSlice (setSlice a i s) (i + s.length) t = setSlice a i (s ++ t) := by
  have hd : (setSlice a i s).drop (i + s.length + t.length) = a.drop (i + (s ++ t).length) := by
    rw [← List.drop_drop, drop_setSlice a s i h, List.drop_drop, List.length_append, Nat.add_assoc]
  rw [setSlice, take_setSlice a s i h, hd, setSlice, List.append_assoc (a.take i)]

theorem set_eq_setSlice (a : List α) (i : Nat) (v : α) (h : i < a.length) : a.set i v = setSlice a i [v] := by
  rw [List.set_eq_take_append_cons_drop, if_pos h]
  simp only [setSlice, List.length_cons, List.length_nil, List.append_assoc, List.cons_append, List.nil_append]

theorem setSlice_set_cons {a : List α} {l : Nat} (c : α) (s : List α) (hl : l < a.length) :
    setSlice (a.set l c) (l + 1) s = setSlice a l (c :: s) := by
  rw [set_eq_setSlice a l c hl]; exact setSlice_setSlice a [c] s l hl

theorem fillSlice_eq_setSlice (a : List α) (i k : Nat) (v : α) :
    fillSlice a i (i + k) v = setSlice a i (List.replicate k v) := by
  simp only [fillSlice, setSlice, List.length_replicate, Nat.add_sub_cancel_left]

theorem fillSlice_end (a : List α) (i : Nat) (v : α) (h : i ≤ a.length) :
    fillSlice a i a.length v = padTo (a.take i) a.length v := by
  simp only [fillSlice, padTo, List.drop_length, List.append_nil, List.length_take, Nat.min_eq_left h]

theorem setSlice_padTo (s l : List α) (n : Nat) (v : α) :
    setSlice (padTo l n v) l.length s = padTo (l ++ s) n v := by
  rw [setSlice, padTo, List.take_left, List.drop_append, List.drop_of_length_le (Nat.le_add_right _ _),
    Nat.add_sub_cancel_left, List.drop_replicate, List.nil_append, padTo, List.length_append, Nat.sub_add_eq]

theorem setSlice_replicate (x : List α) (n : Nat) (v : α) :
    setSlice (List.replicate n v) 0 x = padTo x n v :=
  setSlice_padTo x [] n v

theorem fillSlice_setSlice (a c : List α) {k : Nat} (v : α) (hc : c.length ≤ k) :
    fillSlice (setSlice a 0 c) c.length k v = c ++ List.replicate (k - c.length) v ++ a.drop k := by
  simp only [fillSlice, setSlice, List.take_zero, List.nil_append, Nat.zero_add]
  rw [List.take_left' rfl, List.drop_append, List.drop_of_length_le hc, List.nil_append, List.drop_drop,
    show c.length + (k - c.length) = k by omega]

theorem getD_replicate_self (n i : Nat) (v : α) : (Array.replicate n v).getD i v = v := by
  rw [Array.getD_eq_getD_getElem?, Array.getElem?_replicate]
  split <;> rfl

theorem getD_setIfInBounds_same (a : Array α) (i : Nat) (v d : α) (h : i < a.size) :
    (a.setIfInBounds i v).getD i d = v := by
  rw [Array.getD_eq_getD_getElem?, Array.getElem?_setIfInBounds_self_of_lt h]; rfl

theorem getD_setIfInBounds_ne (a : Array α) (i j : Nat) (v d : α) (h : i ≠ j) :
    (a.setIfInBounds i v).getD j d = a.getD j d := by
  rw [Array.getD_eq_getD_getElem?, Array.getD_eq_getD_getElem?, Array.getElem?_setIfInBounds_ne h]

theorem getD_setIfInBounds (a : Array α) (i j : Nat) (v d : α) (h : i < a.size) :
    (a.setIfInBounds i v).getD j d = if j = i then v else a.getD j d := by
  split
  · next e => rw [e]; exact getD_setIfInBounds_same a i v d h
  · next e => exact getD_setIfInBounds_ne a i j v d (Ne.symm e)

theorem getD_modify (a : Array α) (i j : Nat) (f : α → α) (d : α) (h : i < a.size) :
    (a.modify i f).getD j d = if j = i then f (a.getD i d) else a.getD j d := by
  rw [Array.getD_eq_getD_getElem?, Array.getD_eq_getD_getElem?, Array.getD_eq_getD_getElem?, Array.getElem?_modify]
  split
  · next e => rw [if_pos e.symm, ← e, Array.getElem?_eq_getElem h]; rfl
  · next e => rw [if_neg (Ne.symm e)]

theorem toNat_toUInt8 (n : Nat) (h : n ≤ 255) : n.toUInt8.toNat = n :=
  UInt8.toNat_ofNat_of_lt' (Nat.lt_succ_of_le h)

theorem toUInt8_succ (n : Nat) : n.toUInt8 + 1 = (n + 1).toUInt8 := (UInt8.ofNat_add n 1).symm

theorem toUInt32_toNat (bs : UInt32) : bs.toNat.toUInt32 = bs := UInt32.ofNat_toNat

theorem u8_compare (x y : UInt8) : compare x y = compare x.toNat y.toNat := by
  show compareOfLessAndEq x y = compareOfLessAndEq x.toNat y.toNat
  simp only [compareOfLessAndEq, UInt8.lt_iff_toNat_lt, ← UInt8.toNat_inj]

theorem compare_succ_succ (k l : Nat) : compare (k + 1) (l + 1) = compare k l := by
  simp only [Nat.compare_eq_ite_lt, Nat.add_lt_add_iff_right]

end Ffuzzy
