/-
  The trigger predicate of the reference engine, `Spec.trig k v`: a piece ends at level `k` on rolling
  value `v`. What is proved here follows from one divisibility statement in ℕ; only the comparison with
  the engine's three machine tests (`GenSim.trig_iff_tests`) reads the definition.
-/
import FfuzzyModel.Spec.Naive
namespace Ffuzzy.Spec

/-- a piece ends at level `k` exactly when `3·2^k` divides the rolling value plus one, taken in `ℕ`:
    the one sum that wraps, `2^32`, is no multiple of 3 -/
theorem trig_iff_dvd (k : Nat) (v : UInt32) : trig k v = true ↔ 3 * 2 ^ k ∣ v.toNat + 1 := by
  have hv := v.toNat_lt
  have h0 : v + 1 ≠ 0 ↔ (v + 1).toNat ≠ 0 := not_congr UInt32.toNat_inj.symm
  have hadd : (v + 1).toNat = (v.toNat + 1) % 2 ^ 32 := UInt32.toNat_add v 1
  simp only [trig, Bool.and_eq_true, bne_iff_ne, beq_iff_eq, h0, hadd, ← Nat.dvd_iff_mod_eq_zero]
  by_cases hmax : v.toNat + 1 = 2 ^ 32
  · rw [hmax, Nat.mod_self]
    refine ⟨fun h => absurd rfl h.1, fun ⟨q, hq⟩ => ?_⟩
    rw [Nat.mul_assoc] at hq
    omega
  · rw [Nat.mod_eq_of_lt (by omega)]
    exact ⟨fun h => h.2, fun h => ⟨by omega, h⟩⟩

theorem trig_below (i k : Nat) (v : UInt32) (h : trig i v = true) (hk : k ≤ i) : trig k v = true :=
  (trig_iff_dvd k v).mpr (Nat.dvd_trans (Nat.mul_dvd_mul_left 3 (Nat.pow_dvd_pow 2 hk)) ((trig_iff_dvd i v).mp h))

theorem trig_31 (v : UInt32) : trig 31 v = false := by
  have hv := v.toNat_lt
  refine Bool.eq_false_iff.mpr fun h => ?_
  have := Nat.le_of_dvd (by omega) ((trig_iff_dvd 31 v).mp h)
  omega

theorem trig_eq_mod (k : Nat) (v : UInt32) :
    trig k v = decide (v.toNat % (3 * 2 ^ k) = 3 * 2 ^ k - 1) := by
  have hm : 3 * 2 ^ k = 3 * 2 ^ k - 1 + 1 := by have := Nat.two_pow_pos k; omega
  rw [Bool.eq_iff_iff, trig_iff_dvd, decide_eq_true_iff, Nat.dvd_iff_mod_eq_zero, hm,
    Nat.succ_mod_succ_eq_zero_iff, ← hm]

end Ffuzzy.Spec
