/-
  A position array built by `init_from` is valid, and represents exactly its string
  (`is_valid`, `len`, `is_equiv`) — C17 `posArray_represents`.
-/
import FfuzzyProofs.PosArrayInit
import FfuzzyProofs.HasSequences
namespace Ffuzzy.PosInit

/-- rs: `u64_lsb_ones(n)` is `2^n − 1`; the special case `n = 64` of the source avoids a shift by the
    word size, which `BitVec` truncates to the same value -/
theorem lsbOnes_eq (n : Nat) : u64LsbOnes n = BitVec.ofNat 64 (2 ^ n - 1) := by
  have h : (if n = 64 then 0 else (1 : BitVec 64) <<< n) = BitVec.ofNat 64 (2 ^ n) := by
    split
    · subst n; rfl
    · apply BitVec.eq_of_toNat_eq
      rw [BitVec.toNat_shiftLeft, BitVec.toNat_ofNat, Nat.shiftLeft_eq]
      exact congrArg (· % 2 ^ 64) (Nat.one_mul _)
  rw [u64LsbOnes, h]
  exact BitVec.ofNat_sub_ofNat_of_le _ 1 (by decide) Nat.one_le_two_pow

theorem lsbOnes_bit (n j : Nat) (hj : j < 64) : (u64LsbOnes n).getLsbD j = decide (j < n) := by
  rw [lsbOnes_eq, BitVec.getLsbD_ofNat, Nat.testBit_two_pow_sub_one, decide_eq_true hj, Bool.true_and]

theorem getLsbD_foldl_or (l : List (BitVec 64)) (t : BitVec 64) (j : Nat) :
    (l.foldl (· ||| ·) t).getLsbD j = (t.getLsbD j || l.any (·.getLsbD j)) := by
  induction l generalizing t with
  | nil => simp
  | cons x xs ih => rw [List.foldl_cons, ih, BitVec.getLsbD_or, List.any_cons, Bool.or_assoc]

theorem isValidLoop_of_pairwise : ∀ (l : List (BitVec 64)) (total : BitVec 64),
    (total :: l).Pairwise (fun x y => x &&& y = 0) → PA.isValidLoop l total = some (l.foldl (· ||| ·) total)
  | [], _, _ => rfl
  | pos :: rest, total, h => by
    obtain ⟨h1, h2⟩ := List.pairwise_cons.mp h
    obtain ⟨h3, h4⟩ := List.pairwise_cons.mp h2
    rw [PA.isValidLoop, h1 pos List.mem_cons_self, if_pos (beq_self_eq_true _), List.foldl_cons]
    refine isValidLoop_of_pairwise rest _ (List.pairwise_cons.mpr ⟨fun y hy => ?_, h4⟩)
    rw [BitVec.and_or_distrib_right, h1 y (List.mem_cons_of_mem _ hy), h3 y hy]
    rfl

theorem rep_getElem (q : PA) (k : Nat) (hk : k < q.rep.length) (h : k < 256) :
    q.rep[k] = q.get k.toUInt8 := by
  rw [PA.get, UInt8.toNat_ofNat_of_lt' h, List.getD_eq_getElem?_getD, List.getElem?_eq_getElem hk]; rfl

theorem mem_rep_iff (q : PA) (hrep : q.rep.length = 64) (x : BitVec 64) :
    x ∈ q.rep ↔ ∃ c : UInt8, c.toNat < 64 ∧ q.get c = x := by
  constructor
  · intro hx
    obtain ⟨k, hk, rfl⟩ := List.getElem_of_mem hx
    exact ⟨k.toUInt8, by rw [UInt8.toNat_ofNat_of_lt' (show k < 256 by omega)]; omega, (rep_getElem q k hk (by omega)).symm⟩
  · rintro ⟨c, hc, rfl⟩
    rw [PA.get, List.getD_eq_getElem?_getD, List.getElem?_eq_getElem (by omega)]
    exact List.getElem_mem _

/-- **C17.** the array built from a string is *valid* -/
theorem initFromPartial_valid (a : List UInt8) (hlen : a.length ≤ 64) (hall : ∀ b ∈ a, b.toNat < 64) :
    (PA.new.initFromPartial a).isValid = true := by
  generalize hq : PA.new.initFromPartial a = q
  have hrep : q.rep.length = 64 := hq ▸ initFromPartial_rep_length PA.new a
  have hspec : Hyyro.PaSpec a q.get := hq ▸ initFromPartial_spec a hall
  have hl : q.len.toNat = a.length := hq ▸ initFromPartial_len PA.new a hlen
  -- a position holds one symbol, so the masks are disjoint
  have hpw : (0 :: q.rep).Pairwise (fun x y => x &&& y = 0) := by
    refine List.pairwise_cons.mpr ⟨fun y _ => BitVec.zero_and, List.pairwise_iff_getElem.mpr fun i k hi hk hik => ?_⟩
    apply BitVec.eq_of_getLsbD_eq
    intro p hp
    rw [rep_getElem q i hi (by omega), rep_getElem q k hk (by omega), BitVec.getLsbD_and, hspec _ p hp, hspec _ p hp,
      Bits.getLsbD_zero, Bool.and_eq_false_imp, decide_eq_true_eq, decide_eq_false_iff_not]
    intro h1 h2
    have := congrArg UInt8.toNat (Option.some.inj (h1.symm.trans h2))
    rw [UInt8.toNat_ofNat_of_lt' (show i < 256 by omega), UInt8.toNat_ofNat_of_lt' (show k < 256 by omega)] at this
    omega
  have h64 : ¬ q.len > 64 := fun (h : 64 < q.len.toNat) => by omega
  rw [PA.isValid, if_neg h64, isValidLoop_of_pairwise _ _ hpw]
  show (_ == _) = true
  rw [beq_iff_eq, hl]
  apply BitVec.eq_of_getLsbD_eq
  intro p hp
  rw [getLsbD_foldl_or, lsbOnes_bit _ _ hp, Bits.getLsbD_zero, Bool.false_or, Bool.eq_iff_iff, List.any_eq_true,
    decide_eq_true_eq]
  constructor
  · rintro ⟨x, hx, hb⟩
    obtain ⟨c, _, rfl⟩ := (mem_rep_iff q hrep x).mp hx
    rw [hspec c p hp, decide_eq_true_eq] at hb
    exact (List.getElem?_eq_some_iff.mp hb).1
  · intro hpa
    refine ⟨q.get a[p], (mem_rep_iff q hrep _).mpr ⟨a[p], hall _ (List.getElem_mem hpa), rfl⟩, ?_⟩
    rw [hspec _ p hp, decide_eq_true_eq, List.getElem?_eq_getElem hpa]

theorem initFrom_valid (p : PA) (a : List UInt8) (hlen : a.length ≤ 64) (hall : ∀ b ∈ a, b.toNat < 64) :
    ∃ q, p.initFrom a = some q ∧ q.isValid = true ∧ q.len.toNat = a.length :=
  ⟨_, initFrom_eq p a hlen hall, initFromPartial_valid a hlen hall, initFromPartial_len _ a hlen⟩

/-- **C17.** equivalence test: a valid array built from `a` is equivalent to exactly `a` -/
theorem isEquiv_iff (q : PA) (a x : List UInt8) (hspec : Hyyro.PaSpec a q.get) (hl : q.len.toNat = a.length)
    (ha : a.length ≤ 64) (hx : x.length ≤ 64) :
    q.isEquivInternal x = true ↔ x = a := by
  unfold PA.isEquivInternal
  rw [Bool.and_eq_true, beq_iff_eq, List.all_eq_true, hl]
  constructor
  · rintro ⟨h1, h2⟩
    refine List.ext_getElem h1.symm fun i hi1 hi2 => ?_
    have := h2 (x[i], i) (List.mem_zipIdx_iff_getElem?.mpr (List.getElem?_eq_getElem hi1))
    rw [bne_iff_ne, Bits.and_one_shl_ne_zero _ _ (by omega), hspec _ i (by omega), decide_eq_true_eq,
      List.getElem?_eq_getElem hi2] at this
    exact (Option.some.inj this).symm
  · rintro rfl
    refine ⟨rfl, ?_⟩
    rintro ⟨c, i⟩ hm
    have hmi := List.mem_zipIdx_iff_getElem?.mp hm
    have hi : i < x.length := (List.getElem?_eq_some_iff.mp hmi).1
    rw [bne_iff_ne, Bits.and_one_shl_ne_zero _ _ (by omega), hspec c i (by omega), decide_eq_true_eq]
    exact hmi

theorem initFromPartial_isEquiv_iff (a x : List UInt8) (hlen : a.length ≤ 64) (hall : ∀ b ∈ a, b.toNat < 64)
    (hx : x.length ≤ 64) : (PA.new.initFromPartial a).isEquivInternal x = true ↔ x = a :=
  isEquiv_iff _ a x (initFromPartial_spec a hall) (initFromPartial_len _ a hlen) hlen hx

/-- the crate's instance `has_sequences_const::<4>` is the general test at length 4 -/
theorem hasSequences4_eq (x : BitVec 64) : hasSequences4 x = hasSequences x 4 := rfl

/-- the shift-and trick of `has_sequences_const::<4>`: a mask has four consecutive set bits -/
theorem hasSequences4_iff (x : BitVec 64) :
    hasSequences4 x = true ↔ ∃ i, x.getLsbD i = true ∧ x.getLsbD (i + 1) = true ∧
      x.getLsbD (i + 2) = true ∧ x.getLsbD (i + 3) = true := by
  rw [hasSequences4_eq, HasSeq.hasSequences_iff, or_iff_right (by omega)]
  refine exists_congr fun i => ?_
  -- the four positions one by one; the bound holds because the last of them is a position of the word
  simp only [Nat.forall_lt_succ_right, Nat.not_lt_zero, false_imp_iff, implies_true, true_and, Nat.add_zero, and_assoc]
  exact and_iff_right_of_imp fun ⟨_, _, _, hlast⟩ => by have := BitVec.lt_of_getLsbD hlast; omega

theorem initFromPartial_normalized_iff (a : List UInt8) (hlen : a.length ≤ 64) (hall : ∀ b ∈ a, b.toNat < 64) :
    (PA.new.initFromPartial a).isValidAndNormalized = true ↔
      ∀ i, i + 3 < a.length → ¬ (a[i]? = a[i + 1]? ∧ a[i + 1]? = a[i + 2]? ∧ a[i + 2]? = a[i + 3]?) := by
  rw [PA.isValidAndNormalized, initFromPartial_valid a hlen hall, Bool.true_and, List.all_eq_true]
  generalize hq : PA.new.initFromPartial a = q
  have hrep : q.rep.length = 64 := hq ▸ initFromPartial_rep_length PA.new a
  have hspec : Hyyro.PaSpec a q.get := hq ▸ initFromPartial_spec a hall
  simp only [Bool.not_eq_eq_eq_not, Bool.not_true, ← Bool.not_eq_true, hasSequences4_iff]
  constructor
  · intro h i hi ⟨e1, e2, e3⟩
    have hi0 : i < a.length := by omega
    have e0 : a[i]? = some a[i] := List.getElem?_eq_getElem hi0
    refine h (q.get a[i]) ((mem_rep_iff q hrep _).mpr ⟨a[i], hall _ (List.getElem_mem _), rfl⟩) ⟨i, ?_, ?_, ?_, ?_⟩
    · rw [hspec _ _ (by omega), decide_eq_true_eq, e0]
    · rw [hspec _ _ (by omega), decide_eq_true_eq, ← e1, e0]
    · rw [hspec _ _ (by omega), decide_eq_true_eq, ← e2, ← e1, e0]
    · rw [hspec _ _ (by omega), decide_eq_true_eq, ← e3, ← e2, ← e1, e0]
  · rintro h x hx ⟨i, h0, h1, h2, h3⟩
    obtain ⟨c, _, rfl⟩ := (mem_rep_iff q hrep x).mp hx
    have hi3 := BitVec.lt_of_getLsbD h3
    rw [hspec _ _ (by omega), decide_eq_true_eq] at h0 h1 h2 h3
    exact h i (List.getElem?_eq_some_iff.mp h3).1 ⟨h0.trans h1.symm, h1.trans h2.symm, h2.trans h3.symm⟩

/-- **C17.** the validity-and-normalisation test of a position array built from `a` holds exactly
    when `a` contains no run of four identical symbols -/
theorem isValidAndNormalized_iff (p : PA) (a : List UInt8) (hlen : a.length ≤ 64) (hall : ∀ b ∈ a, b.toNat < 64) :
    ∃ q, p.initFrom a = some q ∧
      (q.isValidAndNormalized = true ↔
        ∀ i, i + 3 < a.length → ¬ (a[i]? = a[i + 1]? ∧ a[i + 1]? = a[i + 2]? ∧ a[i + 2]? = a[i + 3]?)) :=
  ⟨_, initFrom_eq p a hlen hall, initFromPartial_normalized_iff a hlen hall⟩

end Ffuzzy.PosInit
