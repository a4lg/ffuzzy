/-
  Bit-level facts about `BitVec`: the single bits of a mask, and a field or-ed in below a shifted value.
-/
namespace Ffuzzy.Bits

/-- `BitVec.getLsbD_zero` for the numeral `0` -/
theorem getLsbD_zero {w i : Nat} : (0 : BitVec w).getLsbD i = false := BitVec.getLsbD_zero

theorem ne_zero_iff {w : Nat} (d : BitVec w) : d ≠ 0 ↔ ∃ p, p < w ∧ d.getLsbD p = true := by
  simp [BitVec.eq_of_getLsbD_eq_iff]

theorem one_shl_getLsbD {w : Nat} (i j : Nat) (hj : j < w) :
    (((1 : BitVec w) <<< i).getLsbD j) = decide (j = i) := by
  show ((1#w <<< i).getLsbD j) = _
  rw [← BitVec.twoPow_eq, BitVec.getLsbD_twoPow, ← Bool.decide_and, decide_eq_decide]
  exact ⟨fun h => h.2.symm, fun h => ⟨h ▸ hj, h.symm⟩⟩

theorem and_one_shl_ne_zero {w : Nat} (m : BitVec w) (i : Nat) (hi : i < w) :
    m &&& ((1 : BitVec w) <<< i) ≠ 0 ↔ m.getLsbD i = true := by
  rw [ne_zero_iff]
  constructor
  · rintro ⟨p, hp, h⟩
    rw [BitVec.getLsbD_and, one_shl_getLsbD i p hp, Bool.and_eq_true, decide_eq_true_eq] at h
    exact h.2 ▸ h.1
  · intro h
    exact ⟨i, hi, by rw [BitVec.getLsbD_and, one_shl_getLsbD i i hi, h, decide_eq_true rfl]; rfl⟩

/-- or-ing a field in below a shifted value is "times `2^s`, plus"; there is no overflow condition,
    since the bitwise operations commute with truncation -/
theorem ofNat_shl_or {w : Nat} (a r s : Nat) (hr : r < 2 ^ s) :
    BitVec.ofNat w a <<< s ||| BitVec.ofNat w r = BitVec.ofNat w (a * 2 ^ s + r) := by
  apply BitVec.eq_of_toNat_eq
  rw [BitVec.toNat_or, BitVec.toNat_shiftLeft, BitVec.toNat_ofNat, BitVec.toNat_ofNat, BitVec.toNat_ofNat,
    ← Nat.shiftLeft_eq, Nat.shiftLeft_add_eq_or_of_lt hr, Nat.or_mod_two_pow, Nat.shiftLeft_eq, Nat.shiftLeft_eq,
    Nat.mod_mul_mod]

end Ffuzzy.Bits
