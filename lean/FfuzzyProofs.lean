import FfuzzyProofs.Bits
import FfuzzyProofs.Collapse
import FfuzzyProofs.CommonSub
import FfuzzyProofs.Decl.Cuts
import FfuzzyProofs.Decl.Digest
import FfuzzyProofs.Decl.Level
import FfuzzyProofs.Decl.Main
import FfuzzyProofs.Decl.TrigMod
import FfuzzyProofs.Digits
import FfuzzyProofs.Dual.Abstract
import FfuzzyProofs.Dual.Compress
import FfuzzyProofs.Dual.Expand
import FfuzzyProofs.Dual.ParseRoute
import FfuzzyProofs.Dual.Valid
import FfuzzyProofs.Fnv
import FfuzzyProofs.GenBasic
import FfuzzyProofs.GenSim.Basic
import FfuzzyProofs.GenSim.DigestValid
import FfuzzyProofs.GenSim.Engine
import FfuzzyProofs.GenSim.Final
import FfuzzyProofs.GenSim.History
import FfuzzyProofs.GenSim.Hook
import FfuzzyProofs.GenSim.Loop
import FfuzzyProofs.GenSim.NaiveFacts
import FfuzzyProofs.GenSim.Step
import FfuzzyProofs.HasSequences
import FfuzzyProofs.HashValid
import FfuzzyProofs.Hyyro
import FfuzzyProofs.Lcs
import FfuzzyProofs.ListLemmas
import FfuzzyProofs.ParseBh
import FfuzzyProofs.ParseBs
import FfuzzyProofs.ParseField
import FfuzzyProofs.ParseMain
import FfuzzyProofs.PosArrayInit
import FfuzzyProofs.PosArrayValid
import FfuzzyProofs.Properties.C01
import FfuzzyProofs.Properties.C01b
import FfuzzyProofs.Properties.C02
import FfuzzyProofs.Properties.C03
import FfuzzyProofs.Properties.C04
import FfuzzyProofs.Properties.C05
import FfuzzyProofs.Properties.C06
import FfuzzyProofs.Properties.C06b
import FfuzzyProofs.Properties.C07
import FfuzzyProofs.Properties.C08
import FfuzzyProofs.Properties.C09
import FfuzzyProofs.Properties.C10
import FfuzzyProofs.Properties.C11
import FfuzzyProofs.Properties.C12
import FfuzzyProofs.Properties.C13
import FfuzzyProofs.Properties.C14
import FfuzzyProofs.Properties.C15
import FfuzzyProofs.Properties.C16
import FfuzzyProofs.Properties.C17
import FfuzzyProofs.Properties.C18
import FfuzzyProofs.Properties.C19
import FfuzzyProofs.Properties.C20
import FfuzzyProofs.RollingProof
import FfuzzyProofs.Score
import FfuzzyProofs.Tables
import FfuzzyProofs.Trig
import FfuzzyProofs.Windows
